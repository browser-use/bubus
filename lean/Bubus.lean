import Bubus.Model.Basic
import Bubus.Model.Pure
import Bubus.Model.Step
import Bubus.Model.Retry
import Bubus.Model.Results
import Bubus.Spec.Monitors
import Bubus.Proofs.Lists
import Bubus.Proofs.Setters
import Bubus.Proofs.Run
import Bubus.Proofs.Footprint
import Bubus.Proofs.Effects
import Bubus.Proofs.Dispatch
import Bubus.Proofs.Forward
import Bubus.Proofs.Guards
import Bubus.Proofs.Steps
import Bubus.Proofs.Enabled
import Bubus.Proofs.Stable
import Bubus.Proofs.History
import Bubus.Proofs.HistInv
import Bubus.Proofs.Once
import Bubus.Proofs.Fifo
import Bubus.Proofs.PathInv
import Bubus.Proofs.NoSkip
import Bubus.Proofs.RunLoop
import Bubus.Proofs.Expect
import Bubus.Proofs.Wal
import Bubus.Proofs.Finished
import Bubus.Proofs.PathReach
import Bubus.Proofs.Account
import Bubus.Proofs.Mutex
import Bubus.Proofs.MutexFrame
import Bubus.Proofs.MutexInv
import Bubus.Proofs.MutexThm
import Bubus.Proofs.InlineDone
import Bubus.Proofs.Examples
import Bubus.Proofs.Retry
import Bubus.Proofs.Sem
import Bubus.Proofs.Results
import Bubus.Proofs.ResultsDict
