/-
  Bubus.Audit — lists every theorem in namespace `Bubus.Thm` (the property theorems `Cxx_…` and the helpers declared
  there) with the axioms it depends on and its statement.  Run by the checks: `lake env lean Bubus/Audit.lean`.
-/
import Lean
import Bubus
open Lean Elab Command Meta

run_cmd do
  let env ← getEnv
  let mut names : Array Name := #[]
  for (n, ci) in env.constants.toList do
    -- (equation lemmas `f.eq_1 …` that Lean generates for definitions made in this namespace are not property theorems)
    if (`Bubus.Thm).isPrefixOf n && !n.isInternal && !(n.getString!.startsWith "eq_") then
      match ci with
      | .thmInfo _ => names := names.push n
      | _ => pure ()
  let sorted := names.qsort (fun a b => a.toString < b.toString)
  for n in sorted do
    let axs ← liftCoreM (Lean.collectAxioms n)
    let axl := ",".intercalate (axs.toList.map toString)
    IO.println s!"AXIOMS {n} : {axl}"
    let some ci := env.find? n | pure ()
    let fmt ← liftTermElabM (ppExpr ci.type)
    let st := (toString fmt).replace "\n" " "
    IO.println s!"STMT {n} : {st}"
