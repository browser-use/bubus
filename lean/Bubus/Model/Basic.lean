/-
  Bubus.Model.Basic — abstract state of the bubus event bus (bubus/service.py, bubus/models.py).

  Mathlib-free and executable: the same definitions are run by the driver on real histories and are the
  subject of the theorems in `Bubus/Proofs`.

  Identities (`EId`, `BId`, `HId`, `IId`) are natural numbers; maps are total functions updated through the
  setters below (each setter comes with `rfl`-style simp lemmas in `Bubus/Proofs/Setters.lean`).
-/
namespace Bubus

abbrev EId := Nat   -- event
abbrev BId := Nat   -- bus
abbrev HId := Nat   -- handler (one registered callable; the real id is (id(bus), id(handler)))
abbrev IId := Nat   -- handler instance (one execution of a handler for an event on a bus)
abbrev Key := Nat   -- registration key: 0 is the wildcard '*', n+1 an event type name

/-- `EventResult.status`. -/
inductive Status | pending | started | completed | error
  deriving DecidableEq, Repr, Inhabited

/-- What kind of error a result holds (`EventResult.error`), abstracted. -/
inductive ErrK | none | handler | validation | timeout | cancelled
  deriving DecidableEq, Repr, Inhabited

/-- `EventResult` (bubus/models.py): one per (bus, handler) on an event, in insertion order. -/
structure Res where
  hid : HId
  bus : BId
  status : Status := .pending
  err : ErrK := .none
  children : List EId := []
  deriving DecidableEq, Repr, Inhabited

def Res.terminal (r : Res) : Bool := r.status == .completed || r.status == .error
/-- `started_at is not None`: set by `update` as soon as the status is not pending, never reset. -/
def Res.startedAt (r : Res) : Bool := r.status != .pending

/-- `BaseEvent` (bubus/models.py). -/
structure Ev where
  etype : Key := 1
  parent : Option EId := none
  path : List BId := []
  results : List Res := []
  processed : Bool := false     -- event_processed_at is not None
  signal : Bool := false        -- event_completed_signal.is_set()
  created : Nat := 0            -- event_created_at (sort key of eviction)
  timeout : Nat := 0            -- event_timeout in ticks, 0 = None
  deriving Repr, Inhabited

/-- derived `event_status` -/
inductive EStatus | pending | started | completed
  deriving DecidableEq, Repr, Inhabited

def Ev.allTerminal (e : Ev) : Bool := e.results.all Res.terminal
def Ev.anyStarted (e : Ev) : Bool := e.results.any Res.startedAt
/-- `event_completed_at is not None` -/
def Ev.completedAt (e : Ev) : Bool := if e.results.isEmpty then e.processed else e.allTerminal
/-- `event_started_at is not None` -/
def Ev.startedAt (e : Ev) : Bool := e.anyStarted || e.processed
def Ev.status (e : Ev) : EStatus :=
  if e.completedAt then .completed else if e.startedAt then .started else .pending
/-- `event_children`: concatenation of the per-result child lists, in result order. -/
def Ev.children (e : Ev) : List EId := e.results.flatMap (·.children)
def Ev.hasRes (e : Ev) (b : BId) (k : HId) : Bool := e.results.any fun r => r.hid == k && r.bus == b
def Ev.getRes? (e : Ev) (b : BId) (k : HId) : Option Res := e.results.find? fun r => r.hid == k && r.bus == b

/-- processes that act: a bus's run loop, a handler instance, external (non-handler) code -/
inductive Proc | rl (b : BId) | inst (i : IId) | ext
  deriving DecidableEq, Repr, Inhabited

/-- handler kinds: ordinary async function, ordinary sync function, `other_bus.dispatch` (forwarding),
    the temporary handler of `expect()` -/
inductive HKind | async | sync | forward (target : BId) | expect (x : Nat) (pred : Nat)
  deriving DecidableEq, Repr, Inhabited

def HKind.isForward : HKind → Bool | .forward _ => true | _ => false
def HKind.isExpect : HKind → Bool | .expect _ _ => true | _ => false
def HKind.isSync : HKind → Bool | .async => false | _ => true

/-- control state of a bus's run loop task (`_run_loop` / `step`) -/
inductive RL | none | polling | took (e : EId) | processing | exited
  deriving DecidableEq, Repr, Inhabited

structure Reg where
  key : Key
  hid : HId
  kind : HKind
  deriving DecidableEq, Repr, Inhabited

/-- `EventBus` (bubus/service.py) -/
structure Bus where
  handlers : List Reg := []          -- registration order (per key the code keeps a list; see `applicable`)
  everRegs : List Reg := []          -- ghost: every registration ever made (a removed expect() handler may still be scheduled)
  queue : List EId := []             -- event_queue, head first
  enq : List EId := []               -- ghost: every event ever accepted into the queue, in order
  taken : List EId := []             -- ghost: every event ever taken off the queue (run loop or inline), in order
  hist : List EId := []              -- event_history keys, insertion order
  parallel : Bool := false
  maxh : Option Nat := some 50       -- max_history_size
  wal : Bool := false                -- wal_path is set
  walLines : List EId := []          -- ghost: events written to the WAL, in order
  rl : RL := .none
  created : Bool := false            -- event_queue / _on_idle exist
  running : Bool := false            -- _is_running
  shutdown : Bool := false           -- queue._is_shutdown
  unfinished : Nat := 0              -- queue._unfinished_tasks
  idle : Bool := false               -- _on_idle.is_set()
  woke : Bool := false               -- the run loop resumed after its queue.get() returned (step() cleared the idle flag)
  cancelReq : Bool := false          -- the run loop task has a pending cancellation (stop() after its grace period, or task.cancel())
  removed : Bool := false            -- stop(clear=True): removed from EventBus.all_instances
  deriving Repr, Inhabited

/-- one `process_event(bus, ev)` in progress -/
structure Act where
  sel : List HId := []               -- ghost: the handlers selected when the activation began
  bus : BId
  ev : EId
  todo : List HId                    -- applicable handlers not yet scheduled, in order
  running : List IId                 -- scheduled and not yet finished instances
  walDone : Bool := false            -- the WAL line of this activation has been attempted
  deriving DecidableEq, Repr, Inhabited

/-- control state of a handler instance -/
inductive ISt
  | scheduled            -- executor marked the result started and created the handler task
  | running              -- body executing (possibly suspended in user code)
  | awaiting (c : EId)   -- body suspended in `await c` (inline processing mode)
  | ended                -- body returned / raised / was cancelled; executor has not yet recorded it
  | finished             -- executor recorded the outcome
  deriving DecidableEq, Repr, Inhabited

inductive Out | ret | raise | cancelled
  deriving DecidableEq, Repr, Inhabited

structure Inst where
  bus : BId := 0
  ev : EId := 0
  hid : HId := 0
  kind : HKind := .async
  exec : Proc := .ext                -- executor of the activation this instance belongs to
  st : ISt := .finished
  took : Option (BId × EId) := none  -- inline take done, process_event not yet entered
  deadline : Nat := 0                -- start + timeout, 0 = none
  out : Out := .ret
  fwdDone : Bool := false            -- forwarding instance has issued its dispatch
  iters : Nat := 0                   -- iterations of the inline polling loop of the current await
  yields : Nat := 0                  -- ... of which ended in a suspension (every pass ends in at most one)
  cancelling : Bool := false         -- the handler task has been cancelled (deadline / executor cancelled); the body may still clean up
  deriving Repr, Inhabited

/-- control state of an external task blocked in one of the bus's blocking calls -/
inductive WSt
  | idle                                             -- not inside a blocking bus call
  | join (b : BId) (sawZero sawIdle : Bool)          -- wait_until_idle: awaiting queue.join() (both observations are sticky)
  | idleWait (b : BId) (sawIdle : Bool)              -- wait_until_idle: awaiting _on_idle.wait()
  | check (b : BId)                                  -- wait_until_idle: after the sleep(0), about to re-check
  | stopping (b : BId) (deadline : Nat) (clear : Bool) -- stop(): waiting (at most 0.1 s) for the run loop to finish
  | expecting (b : BId) (key : Key) (k : HId) (deadline : Option Nat) (got : Option EId) (dead : Bool)  -- expect() (dead: its future was cancelled): temporary handler k installed
  deriving DecidableEq, Repr, Inhabited

structure Config where
  hardLimit : Nat := 100
  queueMax : Nat := 50
  maxPoll : Nat := 1000
  recursionLimit : Nat := 2
  stopGrace : Nat := 128            -- 0.1 s in ticks of 1/1280 s
  deriving Repr, Inhabited

structure World where
  cfg : Config := {}
  bus : BId → Bus := fun _ => {}
  ev : EId → Ev := fun _ => {}
  inst : IId → Inst := fun _ => {}
  act : Proc → Option Act := fun _ => none
  lock : Option BId := none          -- run loop holding the global lock
  nb : Nat := 0                      -- buses are 0 … nb-1 (EventBus.all_instances)
  ne : Nat := 0                      -- events are 0 … ne-1
  ni : Nat := 0                      -- instances are 0 … ni-1
  now : Nat := 0
  stack : List IId := []             -- ghost: handler instances that exist and are not finished, innermost first
  waiter : Nat → WSt := fun _ => .idle -- external tasks
  nx : Nat := 0                      -- external tasks are 0 … nx-1

instance : Inhabited World := ⟨{}⟩

def World.setBus (w : World) (b : BId) (x : Bus) : World :=
  { w with bus := fun b' => if b' = b then x else w.bus b' }
def World.setEv (w : World) (e : EId) (x : Ev) : World :=
  { w with ev := fun e' => if e' = e then x else w.ev e' }
def World.setInst (w : World) (i : IId) (x : Inst) : World :=
  { w with inst := fun i' => if i' = i then x else w.inst i' }
def World.setAct (w : World) (p : Proc) (x : Option Act) : World :=
  { w with act := fun p' => if p' = p then x else w.act p' }
def World.setLock (w : World) (l : Option BId) : World := { w with lock := l }
def World.setNow (w : World) (t : Nat) : World := { w with now := t }
def World.setNb (w : World) (n : Nat) : World := { w with nb := n }
def World.setNe (w : World) (n : Nat) : World := { w with ne := n }
def World.setNi (w : World) (n : Nat) : World := { w with ni := n }
def World.setStack (w : World) (l : List IId) : World := { w with stack := l }
def World.setWaiter (w : World) (x : Nat) (s : WSt) : World :=
  { w with waiter := fun x' => if x' = x then s else w.waiter x', nx := max w.nx (x + 1) }

def World.modBus (w : World) (b : BId) (f : Bus → Bus) : World := w.setBus b (f (w.bus b))
def World.modEv (w : World) (e : EId) (f : Ev → Ev) : World := w.setEv e (f (w.ev e))
def World.modInst (w : World) (i : IId) (f : Inst → Inst) : World := w.setInst i (f (w.inst i))

/-- update the result of (bus b, handler k) on an event -/
def Ev.updRes (E : Ev) (b : BId) (k : HId) (f : Res → Res) : Ev :=
  { E with results := E.results.map fun r => if r.hid == k && r.bus == b then f r else r }

end Bubus
