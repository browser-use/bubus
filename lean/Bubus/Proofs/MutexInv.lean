/-
  Bubus.Proofs.MutexInv — the chain invariant is preserved by every transition of serial buses: a label that writes
  nothing the invariant reads keeps it by the table of writes; each of the others is an instance of one of the ways of
  change of `MutexFrame`.
-/
import Bubus.Proofs.MutexFrame
import Bubus.Proofs.Effects
namespace Bubus

theorem cs_of_isAwaiting (st : ISt) (h : isAwaiting st = true) : cs st = .wait := by
  cases st <;> simp [isAwaiting] at h <;> rfl

theorem runOf_nil_of_guard (w : World) (p : Proc) (h : (match w.act p with | some A => A.running.isEmpty | none => false) = true) :
    runOf w p = some [] := by
  cases hA : w.act p with
  | none => simp [hA] at h
  | some A => simp [hA] at h; simp [runOf, hA, h]

/-- the first two checks of `peBegin` and of `peRecTrip`: the executor has no activation open and holds the event - a run loop
    with the lock free, a handler instance suspended in an await -/
theorem taker_idle {w : World} (hI : MInv w) {p : Proc} {b : BId} {e : EId} (hact : (w.act p).isNone = true)
    (hp : (match (generalizing := false) p with
      | .rl b' => b' == b && (w.bus b).rl == .took e && w.lock.isNone && (w.bus b).woke
      | .inst i => (w.inst i).took == some (b, e)
      | .ext => false) = true) :
    runOf w p = none ∧ match (generalizing := false) p with
      | .rl b' => b' = b ∧ w.lock = none
      | .inst i => cs (w.inst i).st = .wait
      | .ext => False := by
  refine ⟨(runOf_eq_none _ _).mpr (Option.isNone_iff_eq_none.mp hact), ?_⟩
  cases p with
  | rl b' =>
    obtain ⟨hb, hl⟩ := (Bool.and_eq_true _ _).mp ((Bool.and_eq_true _ _).mp hp).1
    exact ⟨eq_of_beq ((Bool.and_eq_true _ _).mp hb).1, Option.isNone_iff_eq_none.mp hl⟩
  | inst i => exact hI.tookWait i (by rw [eq_of_beq hp]; rfl)
  | ext => cases hp

theorem minv_apply0 (w : World) (l : Label) (hg : guard w l = true) (hI : MInv w)
    (hser : ∀ b maxh wal, l ≠ .newBus b true maxh wal) : MInv (apply0 w l) := by
  cases l
  case newBus b par maxh wal =>
    obtain rfl : par = false := by cases par; rfl; exact absurd rfl (hser b maxh wal)
    -- the new bus is serial; nothing else that the invariant reads is written
    refine minv_of_sameView (w := w) ⟨fun b' => ?_, fun _ => rfl, fun _ => rfl, fun _ => rfl, rfl, rfl, fun _ => rfl, rfl⟩ hI
    show (if b' = b then _ else w.bus b' : Bus).parallel = _
    split
    · rename_i hb; rw [hb, hI.serial b]
    · rfl
  case take p b e =>
    obtain ⟨_, _, h3, _⟩ := guard_all hg
    cases p with
    | inst i =>
      obtain ⟨haw, hact⟩ := (Bool.and_eq_true _ _).mp ((Bool.and_eq_true _ _).mp ((Bool.and_eq_true _ _).mp h3).1).1
      rw [Option.isNone_iff_eq_none] at hact
      have hw := cs_of_isAwaiting _ haw
      have hlive : cs (w.inst i).st ≠ .fin := by rw [hw]; decide
      exact hI.top_state ((apply0_frame w _).agree rfl) rfl i _ rfl hact hlive hlive (.inr hw)
    -- a run loop's take writes no instance
    | rl _ => exact minv_of_sameView (((apply0_frame w _).agree rfl).sameView_of (fun _ => rfl) fun _ => rfl) hI
    | ext => cases h3
  case peBegin p b e =>
    obtain ⟨hact, hp, _⟩ := guard_all hg
    obtain ⟨hrun, hidle⟩ := taker_idle hI hact hp
    have hlock : (apply0 w (.peBegin p b e)).lock = (peEnter w p b).lock := peOpen_frame (peEnter w p b) p b e .lock (by decide)
    refine hI.idle ((apply0_frame w _).agree rfl) p (fun x hx => by rw [hrun] at hx; cases hx)
      (fun q => runOf_ite (apply0_act w _ q)) (fun l hl => (Option.some.inj hl).symm)
      (fun j hj => ⟨congrArg cs (apply0_st w _ j), ?_⟩) ?_
    · rw [apply0_took]
      cases p with
      | inst i => exact if_neg fun hji => hj (congrArg _ hji)
      | _ => rfl
    · cases p with
      | rl b' =>
        exact .inl ⟨b', rfl, fun b'' hb'' => (by rw [hidle.2] at hb''; cases hb''),
          fun _ => hlock.trans (congrArg some hidle.1.symm)⟩
      | inst i =>
        have hw : cs ((apply0 w (.peBegin (.inst i) b e)).inst i).st = .wait := (congrArg cs (apply0_st w _ i)).trans hidle
        exact .inr ⟨i, rfl, hlock, by rw [hidle]; decide, by rw [hw]; decide, fun _ => hw⟩
      | ext => exact hidle.elim
  case peRecTrip p b e =>
    obtain ⟨hact, hp, _⟩ := guard_all hg
    obtain ⟨hrun, hidle⟩ := taker_idle hI hact hp
    cases p with
    -- the run loop gives back a lock that is free: nothing the invariant reads changes
    | rl b' =>
      exact minv_of_sameView (w' := rlBack w b') ⟨rlBack_frame w b' (.bus .parallel) (by decide), fun _ => rfl, fun _ => rfl,
        fun _ => rfl, hidle.2.symm, rfl, fun _ => rfl, rfl⟩ hI
    | inst i =>
      exact hI.top_state ((apply0_frame w _).agree rfl) rfl i _ rfl ((runOf_eq_none _ _).mp hrun) (by rw [hidle]; decide) nofun
        (.inl rfl)
    | ext => exact hidle.elim
  case hSched p i b e k =>
    obtain ⟨hi, _, _, _, _, hser', _⟩ := guard_all hg
    obtain rfl := eq_of_beq hi
    -- the guard: on a serial bus no other handler of the activation is unfinished
    have hp : runOf w p = some [] := by
      rcases (Bool.or_eq_true _ _).mp hser' with h | h
      · rw [hI.serial b] at h; cases h
      · exact runOf_nil_of_guard w p h
    obtain ⟨d, hinst⟩ := applySched_inst w p w.ni b e k
    exact hI.push ((apply0_frame w _).agree rfl) p hp rfl rfl _ hinst ⟨rfl, rfl, rfl⟩
      fun q => runOf_of_act_map (· ++ [w.ni]) (applySched_act w p q w.ni b e k) fun _ => rfl
  -- a body that is scheduled or running belongs to the innermost instance
  case hStart i | awaitBegin i _ =>
    obtain ⟨_, hst, _⟩ := guard_all hg
    have hb : cs (w.inst i).st = .busy := by rw [eq_of_beq hst]; rfl
    exact hI.top_state ((apply0_frame w _).agree rfl) rfl i _ rfl (hI.idle_of_busy hb).1 (by rw [hb]; decide) nofun
      (.inl (hI.idle_of_busy hb).2)
  case hCancel i =>
    obtain ⟨_, hst, _, h4, _⟩ := guard_all hg
    obtain ⟨hact, htook⟩ := idle_of_guard h4
    have hlive : cs (w.inst i).st ≠ .fin := by
      rcases (Bool.or_eq_true _ _).mp hst with h | h
      · rw [eq_of_beq h]; decide
      · rw [cs_of_isAwaiting _ h]; decide
    exact hI.top_state ((apply0_frame w _).agree rfl) rfl i _ rfl hact hlive nofun (.inl htook)
  case hEnd i out =>
    obtain ⟨_, _, hst, _⟩ := guard_all hg
    have hb : cs (w.inst i).st = .busy := by rw [eq_of_beq hst]; rfl
    exact hI.top_state ((apply0_frame w _).agree rfl) (apply0_keeps (f := .lock) rfl) i _ (apply0_hEnd_inst w i out)
      (hI.idle_of_busy hb).1 (by rw [hb]; decide) nofun (.inl (hI.idle_of_busy hb).2)
  case hFinish i r =>
    obtain ⟨_, hst, _⟩ := guard_all hg
    have hbusy : cs (w.inst i).st = .busy := by
      rcases (Bool.or_eq_true _ _).mp hst with h | h
      · rw [eq_of_beq h]; rfl
      · rw [eq_of_beq ((Bool.and_eq_true _ _).mp ((Bool.and_eq_true _ _).mp h).1).1]; rfl
    have h1 : MInv (finishCore w i r) :=
      hI.pop ((finishCore_frame w i r).agree rfl) i hbusy rfl _ (finishCore_inst w i r) rfl
        fun q => runOf_of_act_map (·.erase i) (finishCore_act w i r q) fun _ => rfl
    -- the cascade that a recorded timeout sets off writes results only
    show MInv (applyFinish w i r)
    rw [applyFinish_eq]
    split
    · exact minv_of_sameView ((cancelPendingChildren_frame _ _ _).agree rfl).sameView h1
    · exact h1
  -- the activation of `p` changes, its list of unfinished handlers does not
  case walWrite | hSkip =>
    exact minv_of_sameView (((apply0_frame w _).agree rfl).sameView_of (apply0_keeps (f := .inst .took) rfl)
      fun q => runOf_of_act_keep (apply0_act w _ q) fun _ => rfl) hI
  case peEnd p b e =>
    obtain ⟨hact, hout, _⟩ := guard_all hg
    obtain ⟨A, hA, _, _, _, hr⟩ := act_worked_off hact hout
    have hp : runOf w p = some [] := by rw [runOf, hA, ← hr]; rfl
    refine hI.close ((apply0_frame w _).agree rfl) p hp (fun q => (runOf_ite (apply0_act w (.peEnd p b e) q) :)) fun i hi => ?_
    subst hi; exact peClose_frame _ _ _ _ .lock (by decide)
  case peAbort p b e =>
    obtain ⟨_, hrunning, _⟩ := guard_all hg
    refine hI.close ((apply0_frame w _).agree rfl) p (runOf_nil_of_guard w p hrunning)
      (fun q => (runOf_ite (apply0_act w (.peAbort p b e) q) :)) fun i hi => ?_
    subst hi; rfl
  case awaitEnd i c =>
    obtain ⟨_, hst, h3, _⟩ := guard_all hg
    obtain ⟨hact, htook⟩ := idle_of_guard h3
    exact hI.top_state ((apply0_frame w _).agree rfl) rfl i _ rfl hact (by rw [eq_of_beq hst]; exact nofun) nofun (.inl htook)
  -- by the table of writes, the other labels write nothing the invariant reads
  all_goals exact minv_of_sameView ((apply0_frame w _).agree rfl).sameView hI

end Bubus
