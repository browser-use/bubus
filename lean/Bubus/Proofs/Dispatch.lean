/-
  Bubus.Proofs.Dispatch — the stages of `dispatch`: the components a stage leaves alone, read off its frame, and the
  closed form of what it writes (parent, path, queue, history).
-/
import Bubus.Proofs.Footprint
namespace Bubus

/-- the derived status of an event reads its results and its `processed` mark only -/
theorem Ev.status_congr {E E' : Ev} (hr : E'.results = E.results) (hp : E'.processed = E.processed) : E'.status = E.status := by
  unfold Ev.status Ev.completedAt Ev.startedAt Ev.allTerminal Ev.anyStarted
  rw [hr, hp]

theorem dParent_bus (w ctx e) : (dParent w ctx e).bus = w.bus := (dParent_frame w ctx e).bus_eq rfl

theorem dParent_nb (w ctx e) : (dParent w ctx e).nb = w.nb := dParent_frame w ctx e .nb (by decide)

theorem dParent_cfg (w ctx e) : (dParent w ctx e).cfg = w.cfg := dParent_frame w ctx e .cfg (by decide)

theorem dParent_ev_other (w ctx e x) (h : x ≠ e) : (dParent w ctx e).ev x = w.ev x := by
  unfold dParent; split <;> (try split) <;> simp [h]
theorem dParent_results (w ctx e x) : ((dParent w ctx e).ev x).results = (w.ev x).results :=
  dParent_frame w ctx e (.ev .results) (by decide) x

theorem dParent_path (w ctx e x) : ((dParent w ctx e).ev x).path = (w.ev x).path :=
  dParent_frame w ctx e (.ev .path) (by decide) x

theorem dParent_status (w ctx e x) : ((dParent w ctx e).ev x).status = (w.ev x).status :=
  Ev.status_congr (dParent_frame w ctx e (.ev .results) (by decide) x) (dParent_frame w ctx e (.ev .processed) (by decide) x)

theorem dParent_parent (w : World) (ctx : Option (EId × BId × HId)) (e x : EId) :
    ((dParent w ctx e).ev x).parent =
      if x = e ∧ (w.ev e).parent = none ∧ (∃ c, ctx = some c ∧ c.1 ≠ e) then ctx.map (·.1) else (w.ev x).parent := by
  unfold dParent
  cases ctx with
  | none => simp
  | some c =>
    obtain ⟨ce, cb, ck⟩ := c
    by_cases hx : x = e
    · subst hx
      by_cases hp : (w.ev x).parent = none <;> by_cases hc : ce = x <;> simp [hp, hc]
    · simp only [hx, false_and, if_false]
      split <;> simp [hx]

theorem dPath_bus (w b e) : (dPath w b e).bus = w.bus := (dPath_frame w b e).bus_eq rfl

theorem dPath_nb (w b e) : (dPath w b e).nb = w.nb := dPath_frame w b e .nb (by decide)

theorem dPath_cfg (w b e) : (dPath w b e).cfg = w.cfg := dPath_frame w b e .cfg (by decide)

theorem dPath_parent (w b e x) : ((dPath w b e).ev x).parent = (w.ev x).parent :=
  dPath_frame w b e (.ev .parent) (by decide) x

theorem dPath_results (w b e x) : ((dPath w b e).ev x).results = (w.ev x).results :=
  dPath_frame w b e (.ev .results) (by decide) x

theorem dPath_status (w b e x) : ((dPath w b e).ev x).status = (w.ev x).status :=
  Ev.status_congr (dPath_frame w b e (.ev .results) (by decide) x) (dPath_frame w b e (.ev .processed) (by decide) x)

theorem dPath_path_other (w b e x) (h : x ≠ e) : ((dPath w b e).ev x).path = (w.ev x).path := by
  unfold dPath; split <;> simp [h]
theorem dPath_path_same (w b e) :
    ((dPath w b e).ev e).path = if (w.ev e).path.contains b then (w.ev e).path else (w.ev e).path ++ [b] := by
  unfold dPath; split <;> simp_all

theorem dFwd_bus (w p) : (dFwd w p).bus = w.bus := (dFwd_frame w p).bus_eq rfl

theorem dFwd_ev (w p) : (dFwd w p).ev = w.ev := (dFwd_frame w p).ev_eq rfl

theorem dFwd_nb (w p) : (dFwd w p).nb = w.nb := dFwd_frame w p .nb (by decide)

theorem dFwd_cfg (w p) : (dFwd w p).cfg = w.cfg := dFwd_frame w p .cfg (by decide)

theorem dEnqueue_ev (w b e) : (dEnqueue w b e).ev = w.ev := (dEnqueue_frame w b e).ev_eq rfl

theorem dEnqueue_bus_other (w b e b') (h : b' ≠ b) : (dEnqueue w b e).bus b' = w.bus b' := by simp [dEnqueue, h]
theorem dEnqueue_queue (w b e) : ((dEnqueue w b e).bus b).queue = (w.bus b).queue ++ [e] := by simp [dEnqueue]
theorem dEnqueue_hist (w b e) :
    ((dEnqueue w b e).bus b).hist = if (w.bus b).hist.contains e then (w.bus b).hist else (w.bus b).hist ++ [e] := by
  simp [dEnqueue]
theorem dEnqueue_maxh (w b e) : ((dEnqueue w b e).bus b).maxh = (w.bus b).maxh :=
  dEnqueue_frame w b e (.bus .maxh) (by decide) b

theorem dChild_bus (w ctx e) : (dChild w ctx e).bus = w.bus := (dChild_frame w ctx e).bus_eq rfl

theorem dChild_parent (w ctx e x) : ((dChild w ctx e).ev x).parent = (w.ev x).parent :=
  dChild_frame w ctx e (.ev .parent) (by decide) x

theorem dChild_path (w ctx e x) : ((dChild w ctx e).ev x).path = (w.ev x).path :=
  dChild_frame w ctx e (.ev .path) (by decide) x

theorem cleanup_ev (w b) : (cleanup w b).ev = w.ev := (cleanup_frame w b).ev_eq rfl

theorem cleanup_inst (w b) : (cleanup w b).inst = w.inst := (cleanup_frame w b).inst_eq rfl

theorem cleanup_act (w b) : (cleanup w b).act = w.act := cleanup_frame w b .act (by decide)

theorem cleanup_lock (w b) : (cleanup w b).lock = w.lock := cleanup_frame w b .lock (by decide)

theorem cleanup_nb (w b) : (cleanup w b).nb = w.nb := cleanup_frame w b .nb (by decide)

theorem cleanup_bus_other (w b b') (h : b' ≠ b) : (cleanup w b).bus b' = w.bus b' := by simp [cleanup, h]
theorem cleanup_queue (w b b') : ((cleanup w b).bus b').queue = (w.bus b').queue :=
  cleanup_frame w b (.bus .queue) (by decide) b'

theorem cleanup_hist (w b) : ((cleanup w b).bus b).hist = cleanupHist w (w.bus b).hist (w.bus b).maxh := by simp [cleanup]
theorem cleanup_maxh (w b b') : ((cleanup w b).bus b').maxh = (w.bus b').maxh :=
  cleanup_frame w b (.bus .maxh) (by decide) b'

end Bubus
