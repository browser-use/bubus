/-
  Bubus.Proofs.Fifo — C02 (take order) as an invariant of all reachable states:
  on every bus, the events ever enqueued are exactly the events ever taken followed by the events still queued,
  in order — so events are taken for processing (by the run loop or by an awaiting handler's inline loop) in the order
  they were enqueued, and no accepted event is ever lost from the queue or taken twice.
-/
import Bubus.Proofs.Effects
namespace Bubus

theorem fifo_apply0 (w : World) (l : Label) (hg : guard w l = true)
    (hI : ∀ b, (w.bus b).enq = (w.bus b).taken ++ (w.bus b).queue) (b : BId) :
    ((apply0 w l).bus b).enq = ((apply0 w l).bus b).taken ++ ((apply0 w l).bus b).queue := by
  rw [apply0_enq, apply0_taken, apply0_queue]
  cases l <;> first | exact hI b | dsimp only
  case newBus => split <;> first | rfl | exact hI b
  case dispatch res =>
    cases res <;> first | exact hI b | dsimp only
    split
    · rw [hI b, List.append_assoc]
    · exact hI b
  case take p b' e =>
    -- the guard: `e` is the head of the queue
    obtain ⟨_, hhead, _⟩ := guard_all hg
    split
    · rename_i hb; subst hb
      obtain ⟨t, ht⟩ := List.head?_eq_some_iff.mp (eq_of_beq hhead)
      rw [hI b, ht, List.append_assoc]
      rfl
    · exact hI b

namespace Thm

/-- **C02 (take order), for every reachable state**: on every bus the sequence of events ever taken for processing —
    by the run loop or by an awaiting handler — followed by the events still queued is exactly the sequence of events
    ever enqueued there (by dispatch or forwarding): events are taken in enqueue order, none is lost, none is taken twice. -/
theorem C02_events_are_taken_in_enqueue_order (w : World) (hr : Reachable w) (b : BId) :
    (w.bus b).enq = (w.bus b).taken ++ (w.bus b).queue :=
  hr.induction0 (P := fun w => ∀ b, (w.bus b).enq = (w.bus b).taken ++ (w.bus b).queue) (fun _ => rfl)
    (fun _ _ _ h => h) (fun w l _ hI hg => fifo_apply0 w l hg hI) b

/-- C02 / C14: corollary — what has been taken is a prefix of what has been enqueued. -/
theorem C02_taken_is_a_prefix_of_enqueued (w : World) (hr : Reachable w) (b : BId) :
    (w.bus b).taken <+: (w.bus b).enq := by
  rw [C02_events_are_taken_in_enqueue_order w hr b]
  exact List.prefix_append _ _

/-- C14: an accepted event is never silently dropped from the queue: it stays queued until it is taken. -/
theorem C14_accepted_events_stay_queued_until_taken (w : World) (hr : Reachable w) (b : BId) (e : EId)
    (he : e ∈ (w.bus b).enq) : e ∈ (w.bus b).taken ∨ e ∈ (w.bus b).queue := by
  rw [C02_events_are_taken_in_enqueue_order w hr b] at he
  exact List.mem_append.mp he

end Thm
end Bubus
