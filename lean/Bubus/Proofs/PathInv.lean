/-
  Bubus.Proofs.PathInv — C07: in every reachable state every event's path is duplicate-free
  (forwarding never records a bus twice, whatever the topology: cycles, self-loops, diamonds, re-dispatch).
-/
import Bubus.Proofs.Steps
namespace Bubus

/-- the paths after a label: only `dispatch` (through its stage `dPath`) and `newEvent` write one -/
theorem apply0_path (w : World) (l : Label) (x : EId) :
    ((apply0 w l).ev x).path = match l with
      | .dispatch _ b e _ => ((dPath w b e).ev x).path
      | .newEvent e .. => if x = e then [] else (w.ev x).path
      | _ => (w.ev x).path := by
  have keep := fun h => apply0_keeps (w := w) (l := l) (f := .ev .path) h x
  cases l
  case newEvent e ty par to => (dsimp only [apply0]; simp only [setNe_ev, setEv_ev]); split <;> rfl
  case dispatch p b e res =>
    have h1 : ((dPath (dParent w (ctxOf w p) e) b e).ev x).path = ((dPath w b e).ev x).path := by
      by_cases hx : x = e
      · subst hx; rw [dPath_path_same, dPath_path_same, dParent_path]
      · rw [dPath_path_other _ _ _ _ hx, dPath_path_other _ _ _ _ hx, dParent_path]
    show ((applyDispatch w p b e res).ev x).path = _
    unfold applyDispatch
    cases res <;> simp only [cleanup_ev, dChild_path, dEnqueue_ev, dFwd_ev] <;> exact h1
  all_goals exact keep rfl

namespace Thm

/-- **C07, for every reachable state**: whatever the forwarding topology (chains, diamonds, cycles, self-loops, several
    wildcard forwards per bus), re-dispatches and schedules, no bus ever appears twice in an event's path. -/
theorem C07_no_bus_twice_in_any_path (w : World) (hr : Reachable w) (e : EId) : (w.ev e).path.Nodup := by
  refine hr.induction0 (P := fun w => ∀ x, (w.ev x).path.Nodup) (fun _ => List.nodup_nil) (fun _ _ _ h => h)
    (fun w l _ hI _ x => ?_) e
  rw [apply0_path]
  split
  · rename_i _ b e _ _
    by_cases hx : x = e
    · subst hx; exact C07_path_stays_duplicate_free w b x (hI x)
    · rw [dPath_path_other _ _ _ _ hx]; exact hI x
  · split
    · exact List.nodup_nil
    · exact hI x
  · exact hI x

end Thm
end Bubus
