/-
  Bubus.Proofs.RunLoop — C16: a run loop that has exited (stopped, or its task cancelled) is out of the game, as an
  invariant of all reachable states: an open run-loop activation exists only while that bus's run loop is in its
  `processing` state. So from the moment the run loop is `exited` it begins no activation and starts no handler, in any
  later state of any run, until a new run loop is created for the bus.
-/
import Bubus.Proofs.Effects
namespace Bubus

/-- an open run-loop activation exists only while that run loop is `processing`; buses that do not exist yet have no run loop -/
structure RInv (w : World) : Prop where
  act : ∀ b, (w.act (.rl b)).isSome = true → (w.bus b).rl = .processing
  fresh : ∀ b, w.nb ≤ b → (w.bus b).rl = .none

/-- the run loop of bus `b` as an automaton: its state `s` and whether it has an open activation (`a`) before an accepted
    label, `s'` and `a'` after it, with what the guard says of `s` and `a` (`a' = true → a = true`: the label opens none) -/
inductive RlMove (w : World) (b : BId) (s : RL) (a : Bool) (s' : RL) (a' : Bool) : Label → Prop
  | other {l} : s' = s → (a' = true → a = true) → RlMove w b s a s' a' l
  | newBus {par maxh wal} : b = w.nb → s' = .none → (a' = true → a = true) → RlMove w b s a s' a' (.newBus b par maxh wal)
  | create : b < w.nb → s = .none ∨ s = .exited → s' = .polling → (a' = true → a = true) → RlMove w b s a s' a' (.rlCreate b)
  | take {x e} : b < w.nb → s = .polling → s' = .took e → (a' = true → a = true) → RlMove w b s a s' a' (.take (.rl x) b e)
  | begin {e} : s = .took e → s' = .processing → RlMove w b s a s' a' (.peBegin (.rl b) b e)
  | trip {b' e} : s = .took e → s' = .polling ∨ s' = .exited → (a' = true → a = true) →
      RlMove w b s a s' a' (.peRecTrip (.rl b) b' e)
  | end_ {b' e} : a = true → s' = .polling ∨ s' = .exited → a' = false → RlMove w b s a s' a' (.peEnd (.rl b) b' e)
  | abort {b' e} : a = true → s' = .exited → a' = false → RlMove w b s a s' a' (.peAbort (.rl b) b' e)
  | exit : s = .polling → s' = .exited → (a' = true → a = true) → RlMove w b s a s' a' (.rlExit b)
  | cancelled {e} : s = .took e → s' = .exited → (a' = true → a = true) → RlMove w b s a s' a' (.rlCancelled b)
  | dropExit {e} : s = .took e → s' = .exited → (a' = true → a = true) → RlMove w b s a s' a' (.rlDropExit b)

/-- a label that sets the state of the run loop of `b'`: the run loop of another bus keeps its state -/
theorem RlMove.at {w : World} {b b' : BId} {s s' x : RL} {a a' : Bool} {l : Label}
    (hs : s' = if b = b' then x else s) (ha : a' = true → a = true) (h : b = b' → s' = x → RlMove w b s a s' a' l) :
    RlMove w b s a s' a' l := by
  split at hs
  · exact h ‹_› hs
  · exact .other hs ha

theorem rl_move {w : World} {l : Label} (hg : guard w l = true) (b : BId) :
    RlMove w b (w.bus b).rl (w.act (.rl b)).isSome ((apply0 w l).bus b).rl ((apply0 w l).act (.rl b)).isSome l := by
  -- what the guard says, the new state and whether an activation is open, each a `match` on the label
  have hgr := guard_rl hg
  have hs := apply0_rl w l b
  have ha := apply0_act_isSome w l (.rl b)
  -- closing an activation opens none
  have closes {p : Proc} {a : Bool} {o : Option Act} (h : o.isSome = (Proc.rl b ≠ p && a)) : o.isSome = true → a = true :=
    fun h' => ((Bool.and_eq_true _ _).mp (h.symm.trans h')).2
  -- where the label neither opens nor closes an activation
  have same := ha.symm.trans (c := true)
  cases l
  case newBus b' par maxh wal => exact .at hs same fun hb h => by subst hb; exact .newBus hgr h same
  case rlCreate b' => exact .at hs same fun hb h => by subst hb; exact .create hgr.1 hgr.2 h same
  case rlExit b' => exact .at hs same fun hb h => by subst hb; exact .exit hgr h same
  case rlCancelled b' =>
    obtain ⟨e, h0⟩ := hgr
    exact .at hs same fun hb h => by subst hb; exact .cancelled h0 h same
  case rlDropExit b' =>
    obtain ⟨e, h0⟩ := hgr
    exact .at hs same fun hb h => by subst hb; exact .dropExit h0 h same
  case take p b' e =>
    cases p
    case rl x => exact .at hs same fun hb h => by subst hb; exact .take hgr.2.1 hgr.2.2 h same
    all_goals exact .other hs same
  case peRecTrip p b' e =>
    cases p
    case rl x =>
      obtain ⟨rfl, h0, -⟩ := hgr
      exact .at hs same fun hb h => by subst hb; exact .trip h0 (by rw [h]; split <;> simp) same
    all_goals exact .other hs same
  case peBegin p b' e =>
    cases p
    case rl x =>
      obtain ⟨rfl, h0, -⟩ := hgr
      dsimp only at hs
      split at hs
      · rename_i hb; subst hb; exact .begin h0 hs
      · -- `peBegin` by the run loop of another bus opens that one's activation, not ours
        rename_i hb
        exact .other hs fun h => by simpa [ha, hb] using h
    all_goals exact .other hs fun h => by simpa [ha] using h
  case peEnd p b' e =>
    cases p
    case rl x => exact .at hs (closes ha) fun hb h => by subst hb; exact .end_ hgr (by rw [h]; split <;> simp) (by simp [ha])
    all_goals exact .other hs (closes ha)
  case peAbort p b' e =>
    cases p
    case rl x => exact .at hs (closes ha) fun hb h => by subst hb; exact .abort hgr h (by simp [ha])
    all_goals exact .other hs (closes ha)
  all_goals exact .other hs same

theorem rinv_apply0 (w : World) (l : Label) (hg : guard w l = true) (hI : RInv w) : RInv (apply0 w l) := by
  -- bus by bus, both parts at once, by the move of the run loop
  suffices h : ∀ b, (((apply0 w l).act (.rl b)).isSome = true → ((apply0 w l).bus b).rl = .processing) ∧
      (w.nb ≤ b → ((apply0 w l).bus b).rl = .none) from ⟨fun b => (h b).1, fun b hb => (h b).2 (Nat.le_trans (apply0_nb_mono w l) hb)⟩
  intro b
  -- a run loop outside `processing` had no activation; one whose state is not `none` belongs to an existing bus
  have none_of {α : Prop} (h : (w.bus b).rl ≠ .processing) (hb : (w.act (.rl b)).isSome = true) : α := absurd (hI.act b hb) h
  have some_of {α : Prop} (h : (w.bus b).rl ≠ .none) (hb : w.nb ≤ b) : α := absurd (hI.fresh b hb) h
  cases rl_move hg b with
  | other hs ha => rw [hs]; exact ⟨fun h => hI.act b (ha h), hI.fresh b⟩
  | newBus hb hs ha => exact ⟨fun h => none_of (by rw [hI.fresh b (Nat.le_of_eq hb.symm)]; nofun) (ha h), fun _ => hs⟩
  | create hb h0 _ ha =>
    exact ⟨fun h => none_of (by rcases h0 with h | h <;> rw [h] <;> nofun) (ha h), fun h => absurd hb (Nat.not_lt.mpr h)⟩
  | begin h0 hs => exact ⟨fun _ => hs, some_of (by rw [h0]; nofun)⟩
  | end_ h0 _ ha | abort h0 _ ha => exact ⟨fun h => (by rw [ha] at h; cases h), some_of (by rw [hI.act b h0]; nofun)⟩
  | take _ h0 _ ha | trip h0 _ ha | exit h0 _ ha | cancelled h0 _ ha | dropExit h0 _ ha =>
    exact ⟨fun h => none_of (by rw [h0]; nofun) (ha h), some_of (by rw [h0]; nofun)⟩

theorem rinv_reachable {w : World} (hr : Reachable w) : RInv w :=
  hr.induction0 ⟨fun _ hb => (by cases hb), fun _ _ => rfl⟩ (fun _ _ _ h => ⟨h.act, h.fresh⟩)
    fun w l _ hI hg => rinv_apply0 w l hg hI

/-- a run loop that has exited neither schedules a handler nor begins an activation, in any state whatever: the guards ask
    for a run loop that is `processing`, or that holds a taken event -/
theorem exited_run_loop_starts_nothing (w : World) (b : BId) (h : (w.bus b).rl = .exited) :
    (∀ i b' e k, step w (.hSched (.rl b) i b' e k) = none) ∧ (∀ b' e, step w (.peBegin (.rl b) b' e) = none) := by
  refine ⟨fun i b' e k => ?_, fun b' e => ?_⟩
  · cases hs : step w (.hSched (.rl b) i b' e k) with
    | none => rfl
    | some w' =>
      obtain ⟨_, _, _, hactive, _⟩ := guard_all (step_some hs).1
      have := eq_of_beq ((Bool.and_eq_true _ _).mp hactive).2
      rw [h] at this; cases this
  · cases hs : step w (.peBegin (.rl b) b' e) with
    | none => rfl
    | some w' =>
      obtain ⟨rfl, htook, _⟩ : b = b' ∧ (w.bus b').rl = .took e ∧ _ := guard_rl (step_some hs).1
      rw [h] at htook; cases htook

namespace Thm

/-- C16, for every reachable state: while a bus's run loop is not in its `processing` state — in particular once it has
    exited, after `stop()` or after its task was cancelled — that run loop has no open activation. -/
theorem C16_a_run_loop_outside_processing_has_no_open_activation (w : World) (hr : Reachable w) (b : BId)
    (h : (w.bus b).rl ≠ .processing) : w.act (.rl b) = none := by
  cases hA : w.act (.rl b) with
  | none => rfl
  | some A => exact absurd ((rinv_reachable hr).act b (by rw [hA]; rfl)) h

/-- C16 "no handler of that bus starts afterwards": in no reachable state in which the run loop of bus `b` has exited can
    that run loop begin an activation or schedule (start) a handler; this stays so in every later state until a new run
    loop is created for the bus (`rlCreate`, the only label that leaves `exited`). -/
theorem C16_an_exited_run_loop_starts_no_handler (w : World) (hr : Reachable w) (b : BId) (h : (w.bus b).rl = .exited) :
    (∀ i b' e k, step w (.hSched (.rl b) i b' e k) = none) ∧ (∀ b' e, step w (.peBegin (.rl b) b' e) = none) := by
  have _ := hr -- not needed: the fact holds in every state
  exact exited_run_loop_starts_nothing w b h

/-- … and only the creation of a new run loop ends that: every label that changes the run-loop state of a bus whose run
    loop has exited is `rlCreate` for that bus. -/
theorem C16_only_a_new_run_loop_leaves_exited (w w' : World) (l : Label) (b : BId) (hr : Reachable w)
    (h : (w.bus b).rl = .exited) (hs : step w l = some w') (hch : (w'.bus b).rl ≠ .exited) : l = .rlCreate b := by
  obtain ⟨hg, rfl⟩ := step_some hs
  have hI := rinv_reachable hr
  rw [apply, wake_bus] at hch
  -- while the run loop is `exited` the guard of every label about it but `rlCreate` fails
  cases rl_move hg b with
  | other hs _ => exact absurd (hs.trans h) hch
  | create => rfl
  | newBus hb => exact absurd (hI.fresh b (Nat.le_of_eq hb.symm)) (by rw [h]; nofun)
  | take _ h0 | begin h0 | trip h0 | exit h0 | cancelled h0 | dropExit h0 => exact nomatch h.symm.trans h0
  | end_ h0 | abort h0 => exact nomatch h.symm.trans (hI.act b h0)

end Thm

end Bubus
