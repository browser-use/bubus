/-
  Bubus.Proofs.History — C13: `cleanup_event_history` brings the history down to `max_history_size`,
  evicting completed before started before pending events, oldest first.
-/
import Bubus.Proofs.Dispatch
import Bubus.Proofs.Lists
namespace Bubus

/-- the events of one status in a history, oldest first -/
def bucket (w : World) (h : List EId) (s : EStatus) : List EId :=
  (h.filter fun e => (w.ev e).status == s).mergeSort (byCreated w)

/-- the order in which `cleanup_event_history` evicts: `cleanupVictims` is a prefix of it -/
def evictionOrder (w : World) (h : List EId) : List EId :=
  bucket w h .completed ++ bucket w h .started ++ bucket w h .pending

theorem cleanupVictims_eq (w : World) (h : List EId) (n : Nat) :
    cleanupVictims w h n = (evictionOrder w h).take (h.length - n) := rfl

theorem bucket_status {w : World} {h : List EId} {s : EStatus} {x : EId} (hx : x ∈ bucket w h s) :
    (w.ev x).status = s :=
  eq_of_beq (List.mem_filter.mp ((List.mergeSort_perm _ _).mem_iff.mp hx)).2

theorem bucket_sorted (w : World) (h : List EId) (s : EStatus) :
    (bucket w h s).Pairwise fun a b => (w.ev a).created ≤ (w.ev b).created := by
  refine (List.pairwise_mergeSort (le := byCreated w) ?_ ?_ _).imp of_decide_eq_true
  · intro a b c hab hbc
    exact decide_eq_true (Nat.le_trans (of_decide_eq_true hab) (of_decide_eq_true hbc))
  · intro a b
    simp only [byCreated, Bool.or_eq_true, decide_eq_true_eq]
    exact Nat.le_total _ _

theorem filter_status_perm {α : Type} (c : α → EStatus) (l : List α) :
    (l.filter (c · == .completed) ++ l.filter (c · == .started) ++ l.filter (c · == .pending)).Perm l := by
  induction l with
  | nil => exact .nil
  | cons a l ih =>
    simp only [List.filter_cons]
    cases c a with
    | completed => exact ih.cons a
    | started => exact (List.perm_middle.append_right _).trans (ih.cons a)
    | pending => exact List.perm_middle.trans (ih.cons a)

theorem evictionOrder_perm (w : World) (h : List EId) : (evictionOrder w h).Perm h :=
  have hb (s) : (bucket w h s).Perm (h.filter fun e => (w.ev e).status == s) := List.mergeSort_perm _ _
  (((hb _).append (hb _)).append (hb _)).trans (filter_status_perm (fun e => (w.ev e).status) h)

/-- position of a status class in the eviction order -/
def evictRank : EStatus → Nat
  | .completed => 0
  | .started => 1
  | .pending => 2

/-- `a` is due for eviction no later than `b`: its class comes earlier, or it is of the same class and not younger -/
def evictLE (w : World) (a b : EId) : Prop :=
  evictRank (w.ev a).status < evictRank (w.ev b).status ∨
    ((w.ev a).status = (w.ev b).status ∧ (w.ev a).created ≤ (w.ev b).created)

theorem evictionOrder_sorted (w : World) (h : List EId) : (evictionOrder w h).Pairwise (evictLE w) := by
  have within (s) : (bucket w h s).Pairwise (evictLE w) :=
    (bucket_sorted w h s).imp_of_mem fun ha hb hab =>
      .inr ⟨(bucket_status ha).trans (bucket_status hb).symm, hab⟩
  have across (s t) (hst : evictRank s < evictRank t) : ∀ a ∈ bucket w h s, ∀ b ∈ bucket w h t, evictLE w a b :=
    fun a ha b hb => .inl (by rw [bucket_status ha, bucket_status hb]; exact hst)
  refine List.pairwise_append.mpr
    ⟨List.pairwise_append.mpr ⟨within _, within _, across _ _ (by decide)⟩, within _, fun a ha => ?_⟩
  rcases List.mem_append.mp ha with ha | ha <;> exact across _ _ (by decide) a ha

/-- The eviction order in one statement: with an evicted event `x` goes every event `y` of the history that is due
    strictly before it: of an earlier class, or of the same class and older. -/
theorem cleanupVictims_closed (w : World) (h : List EId) (n : Nat) (x y : EId)
    (hx : x ∈ cleanupVictims w h n) (hy : y ∈ h)
    (hyx : evictRank (w.ev y).status < evictRank (w.ev x).status ∨
      ((w.ev y).status = (w.ev x).status ∧ (w.ev y).created < (w.ev x).created)) : y ∈ cleanupVictims w h n := by
  refine mem_take_of_pairwise (evictionOrder_sorted w h) hx ((evictionOrder_perm w h).mem_iff.mpr hy) fun hxy => ?_
  rcases hyx with hlt | ⟨hs, hc⟩ <;> rcases hxy with hlt' | ⟨hs', hc'⟩
  · exact Nat.lt_asymm hlt hlt'
  · rw [hs'] at hlt; exact Nat.lt_irrefl _ hlt
  · rw [hs] at hlt'; exact Nat.lt_irrefl _ hlt'
  · exact Nat.not_le_of_lt hc hc'

namespace Thm

/-- C13: cleanup removes exactly the excess, never more. -/
theorem C13_cleanup_removes_exactly_the_excess (w : World) (h : List EId) (n : Nat)
    (hn : h.Nodup) (hpos : 0 < n) : (cleanupHist w h (some n)).length = min h.length n := by
  unfold cleanupHist
  dsimp only
  split
  · rename_i hc
    exact (Nat.min_eq_left (hc.resolve_left (Nat.ne_of_gt hpos))).symm
  · rename_i hc
    have hle : n ≤ h.length := Nat.le_of_not_le fun hle => hc (.inr hle)
    -- the victims are `h.length - n` distinct members of `h`
    have hp := evictionOrder_perm w h
    have hlen : (cleanupVictims w h n).length = h.length - n := by
      rw [cleanupVictims_eq, List.length_take, hp.length_eq]
      exact Nat.min_eq_left (Nat.sub_le _ _)
    have := length_filter_not_mem h (cleanupVictims w h n) hn
      ((hp.nodup_iff.mpr hn).sublist (List.take_sublist _ _)) fun x hx => hp.mem_iff.mp (List.mem_of_mem_take hx)
    rw [Nat.min_eq_right hle]
    omega

/-- C13: after cleanup the history holds at most `N` events (for every `N ≥ 1`, every history without duplicates). -/
theorem C13_cleanup_brings_history_down_to_the_bound (w : World) (h : List EId) (n : Nat)
    (hn : h.Nodup) (hpos : 0 < n) : (cleanupHist w h (some n)).length ≤ n := by
  rw [C13_cleanup_removes_exactly_the_excess w h n hn hpos]
  exact Nat.min_le_right _ _

/-- C13: eviction order — a started or pending event is evicted only if every completed event of the history is
    evicted too (in-flight events are spared while a completed one remains). -/
theorem C13_inflight_evicted_only_after_all_completed (w : World) (h : List EId) (n : Nat) (x : EId)
    (hx : x ∈ cleanupVictims w h n) (hs : (w.ev x).status ≠ .completed) :
    ∀ y ∈ h, (w.ev y).status = .completed → y ∈ cleanupVictims w h n := by
  intro y hy hyc
  refine cleanupVictims_closed w h n x y hx hy (.inl ?_)
  rw [hyc]
  cases hst : (w.ev x).status with
  | completed => exact absurd hst hs
  | _ => exact Nat.succ_pos _

/-- C13: eviction never touches the queue, the results, the lock or any process: only the history shrinks. -/
theorem C13_eviction_changes_only_the_history (w : World) (b : BId) :
    (cleanup w b).ev = w.ev ∧ (cleanup w b).inst = w.inst ∧ (cleanup w b).act = w.act ∧
    (cleanup w b).lock = w.lock ∧ ∀ b', ((cleanup w b).bus b').queue = (w.bus b').queue :=
  ⟨cleanup_ev w b, cleanup_inst w b, cleanup_act w b, cleanup_lock w b, fun b' => cleanup_queue w b b'⟩

/-- C13: eviction order, second half — a pending event is evicted only if every started (and, with the theorem above,
    every completed) event of the history is evicted too. -/
theorem C13_pending_evicted_only_after_all_started (w : World) (h : List EId) (n : Nat) (x : EId)
    (hx : x ∈ cleanupVictims w h n) (hs : (w.ev x).status = .pending) :
    ∀ y ∈ h, (w.ev y).status = .started → y ∈ cleanupVictims w h n :=
  fun y hy hys => cleanupVictims_closed w h n x y hx hy (.inl (by rw [hs, hys]; decide))

/-- C13: oldest first — within one status class, an evicted event takes every strictly older event of that class
    with it. -/
theorem C13_eviction_is_oldest_first_within_a_class (w : World) (h : List EId) (n : Nat) (x y : EId)
    (hx : x ∈ cleanupVictims w h n) (hy : y ∈ h) (hsame : (w.ev y).status = (w.ev x).status)
    (hold : (w.ev y).created < (w.ev x).created) : y ∈ cleanupVictims w h n :=
  cleanupVictims_closed w h n x y hx hy (.inr ⟨hsame, hold⟩)

end Thm
end Bubus
