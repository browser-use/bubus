/-
  Bubus.Proofs.Footprint — which fields of the state each stage and each label may write.

  `Fld` names the fields of `World`, `Bus`, `Ev` and `Inst`; `Frame fs w w'` says that `w'` agrees with `w` on every
  field outside `fs`. There is one frame lemma per setter and per stage of `apply0`, the table `writes : Label → List Fld`,
  and the theorem `apply0_frame` that the table is right. Every "this label leaves that field alone" that an invariant
  needs is an instance of it: `Agree P w w'` is what a predicate that reads the fields picked by `P` needs to carry over, and
  `apply0` gives it for every label with `touches l P = false`.
-/
import Bubus.Proofs.Setters
import Bubus.Proofs.Run
namespace Bubus

inductive BusF
  | handlers | everRegs | queue | enq | taken | hist | parallel | maxh | wal | walLines | rl | created | running
  | shutdown | unfinished | idle | woke | cancelReq | removed
  deriving DecidableEq

inductive EvF | etype | parent | path | results | processed | signal | created | timeout
  deriving DecidableEq

inductive InstF | bus | ev | hid | kind | exec | st | took | deadline | out | fwdDone | iters | yields | cancelling
  deriving DecidableEq

inductive Fld
  | bus (f : BusF) | ev (f : EvF) | inst (f : InstF)
  | cfg | act | lock | nb | ne | ni | now | stack | waiter | nx
  deriving DecidableEq

@[reducible] def BusF.same : BusF → Bus → Bus → Prop
  | .handlers, B, B' => B'.handlers = B.handlers
  | .everRegs, B, B' => B'.everRegs = B.everRegs
  | .queue, B, B' => B'.queue = B.queue
  | .enq, B, B' => B'.enq = B.enq
  | .taken, B, B' => B'.taken = B.taken
  | .hist, B, B' => B'.hist = B.hist
  | .parallel, B, B' => B'.parallel = B.parallel
  | .maxh, B, B' => B'.maxh = B.maxh
  | .wal, B, B' => B'.wal = B.wal
  | .walLines, B, B' => B'.walLines = B.walLines
  | .rl, B, B' => B'.rl = B.rl
  | .created, B, B' => B'.created = B.created
  | .running, B, B' => B'.running = B.running
  | .shutdown, B, B' => B'.shutdown = B.shutdown
  | .unfinished, B, B' => B'.unfinished = B.unfinished
  | .idle, B, B' => B'.idle = B.idle
  | .woke, B, B' => B'.woke = B.woke
  | .cancelReq, B, B' => B'.cancelReq = B.cancelReq
  | .removed, B, B' => B'.removed = B.removed

@[reducible] def EvF.same : EvF → Ev → Ev → Prop
  | .etype, E, E' => E'.etype = E.etype
  | .parent, E, E' => E'.parent = E.parent
  | .path, E, E' => E'.path = E.path
  | .results, E, E' => E'.results = E.results
  | .processed, E, E' => E'.processed = E.processed
  | .signal, E, E' => E'.signal = E.signal
  | .created, E, E' => E'.created = E.created
  | .timeout, E, E' => E'.timeout = E.timeout

@[reducible] def InstF.same : InstF → Inst → Inst → Prop
  | .bus, I, I' => I'.bus = I.bus
  | .ev, I, I' => I'.ev = I.ev
  | .hid, I, I' => I'.hid = I.hid
  | .kind, I, I' => I'.kind = I.kind
  | .exec, I, I' => I'.exec = I.exec
  | .st, I, I' => I'.st = I.st
  | .took, I, I' => I'.took = I.took
  | .deadline, I, I' => I'.deadline = I.deadline
  | .out, I, I' => I'.out = I.out
  | .fwdDone, I, I' => I'.fwdDone = I.fwdDone
  | .iters, I, I' => I'.iters = I.iters
  | .yields, I, I' => I'.yields = I.yields
  | .cancelling, I, I' => I'.cancelling = I.cancelling

/-- field `f` has the same value in `w'` as in `w` (for a field of `Bus` / `Ev` / `Inst`: in every bus / event / instance).
    It unfolds (reducibly) to the equation `w'.x = w.x`, new state on the left, so a term `h f hf` can be rewritten with. -/
@[reducible] def Fld.same : Fld → World → World → Prop
  | .bus f, w, w' => ∀ b, f.same (w.bus b) (w'.bus b)
  | .ev f, w, w' => ∀ e, f.same (w.ev e) (w'.ev e)
  | .inst f, w, w' => ∀ i, f.same (w.inst i) (w'.inst i)
  | .cfg, w, w' => w'.cfg = w.cfg
  | .act, w, w' => w'.act = w.act
  | .lock, w, w' => w'.lock = w.lock
  | .nb, w, w' => w'.nb = w.nb
  | .ne, w, w' => w'.ne = w.ne
  | .ni, w, w' => w'.ni = w.ni
  | .now, w, w' => w'.now = w.now
  | .stack, w, w' => w'.stack = w.stack
  | .waiter, w, w' => w'.waiter = w.waiter
  | .nx, w, w' => w'.nx = w.nx

def Frame (fs : List Fld) (w w' : World) : Prop := ∀ f, f ∉ fs → f.same w w'

theorem BusF.same_refl (f : BusF) (B : Bus) : f.same B B := by cases f <;> rfl
theorem EvF.same_refl (f : EvF) (E : Ev) : f.same E E := by cases f <;> rfl
theorem InstF.same_refl (f : InstF) (I : Inst) : f.same I I := by cases f <;> rfl

theorem BusF.same_trans {f : BusF} {B B' B'' : Bus} (h : f.same B B') (h' : f.same B' B'') : f.same B B'' := by
  cases f <;> exact Eq.trans h' h
theorem EvF.same_trans {f : EvF} {E E' E'' : Ev} (h : f.same E E') (h' : f.same E' E'') : f.same E E'' := by
  cases f <;> exact Eq.trans h' h
theorem InstF.same_trans {f : InstF} {I I' I'' : Inst} (h : f.same I I') (h' : f.same I' I'') : f.same I I'' := by
  cases f <;> exact Eq.trans h' h

theorem BusF.ext {B B' : Bus} (h : ∀ f : BusF, f.same B B') : B' = B := by
  cases B; cases B'
  simp only [Bus.mk.injEq]
  exact ⟨h .handlers, h .everRegs, h .queue, h .enq, h .taken, h .hist, h .parallel, h .maxh, h .wal, h .walLines, h .rl,
    h .created, h .running, h .shutdown, h .unfinished, h .idle, h .woke, h .cancelReq, h .removed⟩

theorem EvF.ext {E E' : Ev} (h : ∀ f : EvF, f.same E E') : E' = E := by
  cases E; cases E'
  simp only [Ev.mk.injEq]
  exact ⟨h .etype, h .parent, h .path, h .results, h .processed, h .signal, h .created, h .timeout⟩

theorem InstF.ext {I I' : Inst} (h : ∀ f : InstF, f.same I I') : I' = I := by
  cases I; cases I'
  simp only [Inst.mk.injEq]
  exact ⟨h .bus, h .ev, h .hid, h .kind, h .exec, h .st, h .took, h .deadline, h .out, h .fwdDone, h .iters, h .yields,
    h .cancelling⟩

/-- the component of the world a field belongs to is the same in `w'` as in `w` -/
@[reducible] def Fld.sameComponent : Fld → World → World → Prop
  | .bus _, w, w' => w'.bus = w.bus
  | .ev _, w, w' => w'.ev = w.ev
  | .inst _, w, w' => w'.inst = w.inst
  | f, w, w' => f.same w w'

theorem Fld.same_of_component {f : Fld} {w w' : World} (h : f.sameComponent w w') : f.same w w' := by
  cases f
  case bus f => intro b; rw [show w'.bus = w.bus from h]; exact f.same_refl _
  case ev f => intro e; rw [show w'.ev = w.ev from h]; exact f.same_refl _
  case inst f => intro i; rw [show w'.inst = w.inst from h]; exact f.same_refl _
  all_goals exact h

theorem Fld.same_refl (f : Fld) (w : World) : f.same w w :=
  Fld.same_of_component (by cases f <;> rfl)

theorem Fld.same_trans {f : Fld} {w w' w'' : World} (h : f.same w w') (h' : f.same w' w'') : f.same w w'' := by
  cases f
  case bus f => exact fun b => BusF.same_trans (h b) (h' b)
  case ev f => exact fun e => EvF.same_trans (h e) (h' e)
  case inst f => exact fun i => InstF.same_trans (h i) (h' i)
  all_goals exact Eq.trans h' h

def Fld.allBus : List Fld :=
  [.bus .handlers, .bus .everRegs, .bus .queue, .bus .enq, .bus .taken, .bus .hist, .bus .parallel, .bus .maxh, .bus .wal,
   .bus .walLines, .bus .rl, .bus .created, .bus .running, .bus .shutdown, .bus .unfinished, .bus .idle, .bus .woke,
   .bus .cancelReq, .bus .removed]
def Fld.allEv : List Fld :=
  [.ev .etype, .ev .parent, .ev .path, .ev .results, .ev .processed, .ev .signal, .ev .created, .ev .timeout]
def Fld.allInst : List Fld :=
  [.inst .bus, .inst .ev, .inst .hid, .inst .kind, .inst .exec, .inst .st, .inst .took, .inst .deadline, .inst .out,
   .inst .fwdDone, .inst .iters, .inst .yields, .inst .cancelling]

theorem BusF.mem_all (f : BusF) : .bus f ∈ Fld.allBus := by cases f <;> repeat constructor
theorem EvF.mem_all (f : EvF) : .ev f ∈ Fld.allEv := by cases f <;> repeat constructor
theorem InstF.mem_all (f : InstF) : .inst f ∈ Fld.allInst := by cases f <;> repeat constructor

namespace Frame
variable {fs fs' : List Fld} {w w' w'' : World}

theorem refl (fs : List Fld) (w : World) : Frame fs w w := fun f _ => f.same_refl w

theorem mono (h : Frame fs w w') (hs : fs ⊆ fs') : Frame fs' w w' := fun f hf => h f fun hm => hf (hs hm)

theorem trans (h : Frame fs w w') (h' : Frame fs w' w'') : Frame fs w w'' := fun f hf => Fld.same_trans (h f hf) (h' f hf)

theorem append (h : Frame fs w w') (h' : Frame fs' w' w'') : Frame (fs ++ fs') w w'' :=
  (h.mono (List.subset_append_left _ _)).trans (h'.mono (List.subset_append_right _ _))

end Frame

/-- closes `∀ f, .bus f ∉ fs → f.same B B'` (likewise `.ev`, `.inst`, and `∀ f, f ∉ fs → f.sameComponent w w'`) when `B'` is a
    record update of `B` and `fs` a list literal: field by field, the two sides agree by `rfl` or the field is listed in `fs` -/
macro "by_fields" : tactic => `(tactic| (intro f hf; cases f <;> first | exact rfl | exact absurd (by repeat constructor) hf))

section setters
variable (w : World) (fs : List Fld)

/-- slot `j` of a table is overwritten by `x`: a reflexive relation that holds between the old entry and `x` holds slot by slot -/
theorem same_update {α : Type} {R : α → α → Prop} (hR : ∀ a, R a a) {g : Nat → α} {j : Nat} {x : α} (h : R (g j) x) (i : Nat) :
    R (g i) (if i = j then x else g i) := by
  split
  · rename_i hi; exact hi ▸ h
  · exact hR _

theorem frame_setBus (b : BId) (x : Bus) (h : ∀ f : BusF, .bus f ∉ fs → f.same (w.bus b) x) : Frame fs w (w.setBus b x) := by
  intro f hf
  cases f
  case bus f => exact same_update f.same_refl (h f hf)
  all_goals exact Fld.same_of_component rfl

theorem frame_setEv (e : EId) (x : Ev) (h : ∀ f : EvF, .ev f ∉ fs → f.same (w.ev e) x) : Frame fs w (w.setEv e x) := by
  intro f hf
  cases f
  case ev f => exact same_update f.same_refl (h f hf)
  all_goals exact Fld.same_of_component rfl

theorem frame_setInst (i : IId) (x : Inst) (h : ∀ f : InstF, .inst f ∉ fs → f.same (w.inst i) x) :
    Frame fs w (w.setInst i x) := by
  intro f hf
  cases f
  case inst f => exact same_update f.same_refl (h f hf)
  all_goals exact Fld.same_of_component rfl

theorem frame_component (w' : World) (f₀ : Fld) (h₀ : f₀ ∈ fs) (h : ∀ f, f ≠ f₀ → f.sameComponent w w') : Frame fs w w' :=
  fun f hf => Fld.same_of_component (h f fun hf₀ => hf (hf₀ ▸ h₀))

theorem frame_setAct (p : Proc) (x : Option Act) (h : .act ∈ fs) : Frame fs w (w.setAct p x) :=
  frame_component w fs _ .act h fun f hf => by cases f <;> first | exact rfl | exact absurd rfl hf

/-- the activation of `p`, if `o` holds one, is rewritten by `g`: the form in which `hSched`, `hSkip`, `hFinish` and `walWrite`
    advance an activation (`o` is `w.act p`, read before the label's other writes; `generalizing := false` keeps `h` from
    becoming a second discriminant of the `match`) -/
theorem frame_mapAct (p : Proc) (o : Option Act) (g : Act → Act) (h : .act ∈ fs) :
    Frame fs w (match (generalizing := false) o with | some A => w.setAct p (some (g A)) | none => w) := by
  split
  · exact frame_setAct w fs _ _ h
  · exact Frame.refl _ _

theorem frame_setLock (l : Option BId) (h : .lock ∈ fs) : Frame fs w (w.setLock l) :=
  frame_component w fs _ .lock h fun f hf => by cases f <;> first | exact rfl | exact absurd rfl hf

theorem frame_setNow (t : Nat) (h : .now ∈ fs) : Frame fs w (w.setNow t) :=
  frame_component w fs _ .now h fun f hf => by cases f <;> first | exact rfl | exact absurd rfl hf

theorem frame_setNb (n : Nat) (h : .nb ∈ fs) : Frame fs w (w.setNb n) :=
  frame_component w fs _ .nb h fun f hf => by cases f <;> first | exact rfl | exact absurd rfl hf

theorem frame_setNe (n : Nat) (h : .ne ∈ fs) : Frame fs w (w.setNe n) :=
  frame_component w fs _ .ne h fun f hf => by cases f <;> first | exact rfl | exact absurd rfl hf

theorem frame_setNi (n : Nat) (h : .ni ∈ fs) : Frame fs w (w.setNi n) :=
  frame_component w fs _ .ni h fun f hf => by cases f <;> first | exact rfl | exact absurd rfl hf

theorem frame_setStack (l : List IId) (h : .stack ∈ fs) : Frame fs w (w.setStack l) :=
  frame_component w fs _ .stack h fun f hf => by cases f <;> first | exact rfl | exact absurd rfl hf

theorem frame_setWaiter (x : Nat) (s : WSt) (h : .waiter ∈ fs ∧ .nx ∈ fs) : Frame fs w (w.setWaiter x s) :=
  fun f hf => Fld.same_of_component (by cases f <;> first | exact rfl | exact absurd h.1 hf | exact absurd h.2 hf)

end setters

/-- the fields a label may write (an upper bound: which of them it does write can depend on the state, on whether the
    executor is a run loop or an awaiting handler, and for `dispatch` on the outcome: a rejected one stops after the
    stages of `dispatchHead_frame`) -/
def writes : Label → List Fld
  | .newBus .. => .nb :: Fld.allBus
  | .on .. => [.bus .handlers, .bus .everRegs]
  | .off .. => [.bus .handlers]
  | .newEvent .. => .ne :: Fld.allEv
  | .tick _ => [.now]
  | .rlCreate _ => [.bus .created, .bus .running, .bus .rl]
  | .dispatch .. =>
    [.ev .parent, .ev .path, .inst .fwdDone, .bus .queue, .bus .enq, .bus .hist, .bus .unfinished, .ev .results]
  | .take .. => [.bus .queue, .bus .taken, .bus .rl, .bus .woke, .inst .took, .inst .iters]
  | .peBegin .. => [.bus .rl, .lock, .inst .took, .ev .results, .act, .ev .processed, .ev .signal]
  | .peRecTrip .. => [.bus .rl, .lock, .inst .took, .inst .st]
  | .hSched .. => .ev .results :: .act :: .ni :: .stack :: Fld.allInst
  | .hStart _ => [.inst .st]
  | .hCancel _ => [.inst .cancelling, .inst .st]
  | .hEnd .. => [.inst .st, .inst .out, .waiter, .nx]
  | .hFinish .. => [.ev .results, .inst .st, .act, .stack]
  | .walWrite .. => [.act, .bus .walLines]
  | .peEnd .. => [.ev .processed, .ev .signal, .bus .hist, .act, .bus .unfinished, .bus .rl, .lock, .bus .idle]
  | .peAbort .. => [.act, .bus .rl, .bus .running, .bus .cancelReq, .lock]
  | .awaitBegin .. => [.inst .st, .inst .iters, .inst .yields]
  | .pollYield _ => [.inst .iters, .inst .yields]
  | .awaitEnd .. => [.inst .st]
  | .xAwaitEnd _ | .readBus .. | .stopNoop .. => []
  | .rlWake _ => [.bus .idle, .bus .woke]
  | .rlPoll _ => [.bus .idle]
  | .wiBegin .. | .wiJoined _ | .wiIdle _ | .wiEnd _ | .wiCancel _ | .expectTimeout _ | .expectCancelReq _ => [.waiter, .nx]
  | .wiRecheck _ => [.bus .idle, .waiter, .nx]
  | .stopBegin .. => [.bus .running, .bus .shutdown, .waiter, .nx]
  | .stopEnd _ => [.bus .cancelReq, .bus .idle, .bus .hist, .bus .handlers, .bus .removed, .waiter, .nx]
  | .rlExit _ | .rlDropExit _ => [.bus .idle, .bus .rl, .bus .running, .bus .cancelReq]
  | .cancelRl _ => [.bus .cancelReq]
  | .rlCancelled _ => [.bus .rl, .bus .running, .bus .cancelReq]
  | .expectBegin .. => [.bus .handlers, .bus .everRegs, .waiter, .nx]
  | .expectEnd .. | .expectCancel _ => [.bus .handlers, .waiter, .nx]
  | .hSkip .. => [.act]

/-- an event without handler results counts as a finished tree: there is no result to wait for and no child -/
theorem treeDone_of_no_results {w : World} {e : EId} (h : (w.ev e).results = []) : treeDone w e = true := by
  have hch : (w.ev e).children = [] := by simp [Ev.children, h]
  unfold treeDone allChildrenComplete allDoneFrom
  simp [Ev.allTerminal, h, hch]
  cases walkBudget w <;> simp [allDoneFrom]

/-- `event_mark_complete_if_all_handlers_completed` marks the event exactly when it is not yet signalled and its tree is
    finished (its test for an event without results is a shortcut to the same answer) -/
theorem markComplete_eq (w : World) (e : EId) :
    markComplete w e = if (w.ev e).signal = false ∧ treeDone w e = true
      then w.setEv e { w.ev e with processed := true, signal := true } else w := by
  unfold markComplete
  dsimp only
  -- either way the nest of tests is evaluated in every case of the Booleans it reads
  by_cases hemp : (w.ev e).results.isEmpty = true
  · rw [if_pos hemp, treeDone_of_no_results (List.isEmpty_iff.mp hemp)]
    cases (w.ev e).signal <;> rfl
  · rw [if_neg hemp, treeDone]
    cases (w.ev e).signal <;> cases (w.ev e).allTerminal <;> cases allChildrenComplete w (w.ne + 1) e <;> rfl

theorem markComplete_frame (w : World) (e : EId) : Frame [.ev .processed, .ev .signal] w (markComplete w e) := by
  rw [markComplete_eq]
  split
  · exact frame_setEv _ _ _ _ (by by_fields)
  · exact Frame.refl _ _

/-- a property of the state that marking one event complete preserves holds after the whole walk up the parent chain -/
theorem parentWalk_induction {P : World → Prop} (hone : ∀ w p, P w → P (markComplete w p))
    (w : World) (fuel : Nat) (e : EId) (seen : List EId) (h : P w) : P (parentWalk w fuel e seen) := by
  induction fuel generalizing w e seen with
  | zero => exact h
  | succ n ih =>
    unfold parentWalk
    repeat' split
    all_goals first | exact h | exact ih _ _ _ (hone _ _ h)

theorem parentWalk_frame (w : World) (fuel : Nat) (e : EId) (seen : List EId) :
    Frame [.ev .processed, .ev .signal] w (parentWalk w fuel e seen) :=
  parentWalk_induction (P := Frame [.ev .processed, .ev .signal] w) (fun _ _ h => h.trans (markComplete_frame _ _))
    w fuel e seen (Frame.refl _ _)

/-- a property of the state that cancelling the pending results of one event preserves holds after the whole cascade of
    `event_cancel_pending_child_processing` (the induction over the fuel and, inside, over the list of children) -/
theorem cancelPendingChildren_induction {P : World → Prop}
    (hone : ∀ w c, P w → P (w.modEv c fun C => { C with results := C.results.map fun r =>
      if r.status == .pending then { r with status := .error, err := .cancelled } else r }))
    (w : World) (fuel : Nat) (e : EId) (h : P w) : P (cancelPendingChildren w fuel e) := by
  induction fuel generalizing w e with
  | zero => exact h
  | succ n ih =>
    unfold cancelPendingChildren
    generalize (w.ev e).children = cs
    induction cs generalizing w with
    | nil => exact h
    | cons c cs ihc => exact ihc _ (ih _ c (hone w c h))

theorem cancelPendingChildren_frame (w : World) (fuel : Nat) (e : EId) :
    Frame [.ev .results] w (cancelPendingChildren w fuel e) :=
  cancelPendingChildren_induction (P := Frame [.ev .results] w) (fun _ _ h => h.trans (frame_setEv _ _ _ _ (by by_fields)))
    w fuel e (Frame.refl _ _)

theorem cleanup_frame (w : World) (b : BId) : Frame [.bus .hist] w (cleanup w b) :=
  frame_setBus _ _ _ _ (by by_fields)

theorem dParent_frame (w : World) (ctx : Option (EId × BId × HId)) (e : EId) : Frame [.ev .parent] w (dParent w ctx e) := by
  unfold dParent
  repeat' split
  all_goals first | exact Frame.refl _ _ | exact frame_setEv _ _ _ _ (by by_fields)

theorem dPath_frame (w : World) (b : BId) (e : EId) : Frame [.ev .path] w (dPath w b e) := by
  unfold dPath
  split
  · exact Frame.refl _ _
  · exact frame_setEv _ _ _ _ (by by_fields)

theorem dFwd_frame (w : World) (p : Proc) : Frame [.inst .fwdDone] w (dFwd w p) := by
  unfold dFwd
  repeat' split
  all_goals first | exact Frame.refl _ _ | exact frame_setInst _ _ _ _ (by by_fields)

theorem dEnqueue_frame (w : World) (b : BId) (e : EId) :
    Frame [.bus .queue, .bus .enq, .bus .hist, .bus .unfinished] w (dEnqueue w b e) :=
  frame_setBus _ _ _ _ (by by_fields)

theorem dChild_frame (w : World) (ctx : Option (EId × BId × HId)) (e : EId) : Frame [.ev .results] w (dChild w ctx e) := by
  unfold dChild
  repeat' split
  all_goals first | exact Frame.refl _ _ | exact frame_setEv _ _ _ _ (by by_fields)

/-- the stages of `dispatch` that run whatever the outcome -/
theorem dispatchHead_frame (w : World) (p : Proc) (b : BId) (e : EId) :
    Frame [.ev .parent, .ev .path, .inst .fwdDone] w (dFwd (dPath (dParent w (ctxOf w p) e) b e) p) :=
  ((dParent_frame _ _ _).append (dPath_frame _ _ _)).append (dFwd_frame _ _)

theorem applyDispatch_frame (w : World) (p : Proc) (b : BId) (e : EId) (res : DRes) :
    Frame (writes (.dispatch p b e res)) w (applyDispatch w p b e res) := by
  dsimp only [writes]
  cases res
  case ok =>
    exact (((dispatchHead_frame w p b e).append (dEnqueue_frame _ _ _)).append (dChild_frame _ _ _)).trans
      ((cleanup_frame _ _).mono (by decide))
  all_goals exact (dispatchHead_frame w p b e).mono (by decide)

theorem rlBack_frame (w : World) (b : BId) : Frame [.bus .rl, .lock] w (rlBack w b) :=
  (frame_setBus _ _ _ _ (by by_fields)).trans (frame_setLock _ _ _ (by decide))

theorem rlIdleCheck_frame (w : World) (b : BId) : Frame [.bus .idle] w (rlIdleCheck w b) := by
  unfold rlIdleCheck
  split
  · exact frame_setBus _ _ _ _ (by by_fields)
  · exact Frame.refl _ _

theorem releaseRl_frame (w : World) (b : BId) : Frame [.bus .rl, .lock, .bus .idle] w (releaseRl w b) :=
  (rlBack_frame w b).append (rlIdleCheck_frame _ b)

theorem peOpen_frame (w : World) (p : Proc) (b : BId) (e : EId) :
    Frame [.ev .results, .act, .ev .processed, .ev .signal] w (peOpen w p b e) := by
  unfold peOpen
  simp only []
  split
  · exact ((frame_setEv _ [.ev .results, .act] _ _ (by by_fields)).trans (frame_setAct _ _ _ _ (by decide))).append
      (markComplete_frame _ _)
  · exact (frame_setEv _ _ _ _ (by by_fields)).trans (frame_setAct _ _ _ _ (by decide))

/-- a sharper frame for `peOpen`: the activation is set, the rest is about events -/
theorem peOpen_frame_act (w : World) (p : Proc) (b : BId) (e : EId) :
    Frame [.ev .results, .ev .processed, .ev .signal]
      (w.setAct p (some { bus := b, ev := e, todo := applicable w b e, running := [], sel := applicable w b e }))
      (peOpen w p b e) := by
  unfold peOpen
  dsimp only
  -- `peOpen` sets the event first; the two setters commute by unfolding
  split
  · exact (frame_setEv (w.setAct p _) [.ev .results] e _ (by by_fields)).append (markComplete_frame _ _)
  · exact frame_setEv (w.setAct p _) _ e _ (by by_fields)

/-- the completion marking at the end of `process_event`: the event itself, then the walk up its ancestors, to which `peClose`
    gives the fuel `ne + 1` -/
def completeWalk (w : World) (e : EId) : World := parentWalk (markComplete w e) ((markComplete w e).ne + 1) e []

theorem completeWalk_frame (w : World) (e : EId) : Frame [.ev .processed, .ev .signal] w (completeWalk w e) :=
  (markComplete_frame w e).trans (parentWalk_frame _ _ _ _)

theorem peClose_eq (w : World) (p : Proc) (b : BId) (e : EId) :
    peClose w p b e =
      ((cleanup (completeWalk w e) b).setAct p none).modBus b fun B => { B with unfinished := B.unfinished - 1 } := rfl

theorem peClose_frame (w : World) (p : Proc) (b : BId) (e : EId) :
    Frame [.ev .processed, .ev .signal, .bus .hist, .act, .bus .unfinished] w (peClose w p b e) := by
  rw [peClose_eq]
  exact ((completeWalk_frame w e).append (cleanup_frame _ b)).append
    ((frame_setAct _ _ p none (by decide)).trans (frame_setBus _ _ _ _ (by by_fields)))

theorem applySched_frame (w : World) (p : Proc) (i : IId) (b : BId) (e : EId) (k : HId) :
    Frame (writes (.hSched p i b e k)) w (applySched w p i b e k) := by
  dsimp only [writes]
  refine Frame.trans ?_ (frame_setStack _ _ _ (by decide))
  refine Frame.trans ?_ (frame_setNi _ _ _ (by decide))
  refine Frame.trans ?_ (frame_mapAct _ _ p (w.act p) _ (by decide))
  -- the new instance is unrelated to what the slot held: every field of it counts as written
  exact (frame_setEv _ _ _ _ (by by_fields)).trans (frame_setInst _ _ _ _ fun f hf => absurd
    (List.mem_cons_of_mem _ <| List.mem_cons_of_mem _ <| List.mem_cons_of_mem _ <| List.mem_cons_of_mem _ f.mem_all) hf)

theorem applySched_ev (w : World) (p : Proc) (i : IId) (b : BId) (e : EId) (k : HId) :
    (applySched w p i b e k).ev = (w.modEv e fun E => E.updRes b k fun r => { r with status := .started }).ev := by
  unfold applySched; split <;> rfl

theorem applySched_inst (w : World) (p : Proc) (i : IId) (b : BId) (e : EId) (k : HId) :
    ∃ d, (applySched w p i b e k).inst =
      (w.setInst i { bus := b, ev := e, hid := k, kind := kindOf w b k, exec := p, st := .scheduled, deadline := d }).inst := by
  unfold applySched
  exact ⟨_, by cases w.act p <;> rfl⟩

/-- `applyFinish` before the cascade that a recorded timeout sets off: the outcome is written to the result, the instance is
    finished and leaves its activation and the stack -/
def finishCore (w : World) (i : IId) (r : Fin) : World :=
  let I := w.inst i
  let w2 := (w.modEv I.ev fun E => E.updRes I.bus I.hid fun x => { x with status := r.status, err := r.err }).setInst i
    { I with st := .finished }
  (match w.act I.exec with
    | some A => w2.setAct I.exec (some { A with running := A.running.erase i })
    | none => w2).setStack (w.stack.erase i)

theorem applyFinish_eq (w : World) (i : IId) (r : Fin) :
    applyFinish w i r =
      if r == .errTimeout then cancelPendingChildren (finishCore w i r) (w.ne + 1) (w.inst i).ev else finishCore w i r := rfl

theorem finishCore_ev (w : World) (i : IId) (r : Fin) :
    (finishCore w i r).ev = (w.modEv (w.inst i).ev fun E => E.updRes (w.inst i).bus (w.inst i).hid fun x =>
      { x with status := r.status, err := r.err }).ev := by
  unfold finishCore; dsimp only; split <;> rfl

theorem finishCore_inst (w : World) (i : IId) (r : Fin) :
    (finishCore w i r).inst = (w.setInst i { w.inst i with st := .finished }).inst := by
  unfold finishCore; dsimp only; split <;> rfl

theorem finishCore_frame (w : World) (i : IId) (r : Fin) : Frame [.ev .results, .inst .st, .act, .stack] w (finishCore w i r) := by
  unfold finishCore
  refine Frame.trans ?_ (frame_setStack _ _ _ (by decide))
  refine Frame.trans ?_ (frame_mapAct _ _ (w.inst i).exec (w.act (w.inst i).exec) _ (by decide))
  exact (frame_setEv _ _ _ _ (by by_fields)).trans (frame_setInst _ _ _ _ (by by_fields))

theorem applyFinish_frame (w : World) (i : IId) (r : Fin) :
    Frame (writes (.hFinish i r)) w (applyFinish w i r) := by
  rw [applyFinish_eq]
  split
  · exact (finishCore_frame w i r).trans ((cancelPendingChildren_frame _ _ _).mono (by decide))
  · exact finishCore_frame w i r

theorem frame_of_core {w w' : World} (h : w'.core = w.core) : Frame [.waiter, .nx] w w' := by
  obtain ⟨_, _, _, _, _, _, _, _, _, _, _⟩ := Core.mk.inj h
  intro f hf
  refine Fld.same_of_component ?_
  cases f <;> first | assumption | exact absurd (by decide) hf

theorem wake_frame (w : World) : Frame [.waiter, .nx] w (wake w) := frame_of_core (wake_core w)

theorem apply0_frame (w : World) (l : Label) : Frame (writes l) w (apply0 w l) := by
  cases l <;> (try dsimp only [writes])
  -- a new bus / event is unrelated to what the slot held: every field of it counts as written
  case newBus =>
    exact (frame_setBus _ _ _ _ fun f hf => absurd (List.mem_cons_of_mem _ f.mem_all) hf).trans (frame_setNb _ _ _ (by decide))
  case on | off | rlCreate | rlWake | cancelRl | rlCancelled => exact frame_setBus _ _ _ _ (by by_fields)
  case newEvent =>
    exact (frame_setEv _ _ _ _ fun f hf => absurd (List.mem_cons_of_mem _ f.mem_all) hf).trans (frame_setNe _ _ _ (by decide))
  case tick => exact frame_setNow _ _ _ (by decide)
  case dispatch p b e res => exact applyDispatch_frame w p b e res
  case take p b e =>
    cases p <;> dsimp only [apply0]
    · exact (frame_setBus _ _ _ _ (by by_fields)).trans (frame_setBus _ _ _ _ (by by_fields))
    · exact (frame_setBus _ _ _ _ (by by_fields)).trans (frame_setInst _ _ _ _ (by by_fields))
    · exact frame_setBus _ _ _ _ (by by_fields)
  case peBegin p b e =>
    cases p <;> dsimp only [apply0, peEnter]
    · exact ((frame_setBus _ _ _ _ (by by_fields)).trans (frame_setLock _ _ _ (by decide))).trans
        ((peOpen_frame _ _ _ _).mono (by decide))
    · exact (frame_setInst _ _ _ _ (by by_fields)).trans ((peOpen_frame _ _ _ _).mono (by decide))
    · exact (peOpen_frame _ _ _ _).mono (by decide)
  case peRecTrip p b e =>
    cases p <;> dsimp only [apply0]
    · exact (rlBack_frame _ _).mono (by decide)
    · exact frame_setInst _ _ _ _ (by by_fields)
    · exact Frame.refl _ _
  case hSched p i b e k => exact applySched_frame w p i b e k
  case hStart | hCancel | awaitBegin | pollYield | awaitEnd => exact frame_setInst _ _ _ _ (by by_fields)
  case hEnd i out =>
    have h : Frame [.inst .st, .inst .out, .waiter, .nx] w (w.modInst i fun I => { I with st := .ended, out := out }) :=
      frame_setInst _ _ _ _ (by by_fields)
    dsimp only [apply0]
    repeat' split
    all_goals first | exact h | exact h.trans (frame_setWaiter _ _ _ _ (by decide))
  case hFinish i r => exact applyFinish_frame w i r
  case walWrite p b e ok =>
    have h : Frame [.act, .bus .walLines] w
        (match w.act p with | some A => w.setAct p (some { A with walDone := true }) | none => w) :=
      frame_mapAct w _ p _ _ (by decide)
    dsimp only [apply0]
    split
    · exact h.trans (frame_setBus _ _ _ _ (by by_fields))
    · exact h
  case peEnd p b e =>
    cases p <;> dsimp only [apply0]
    · exact (peClose_frame _ _ _ _).append (releaseRl_frame _ _)
    all_goals exact (peClose_frame _ _ _ _).mono (by decide)
  case peAbort p b e =>
    cases p <;> dsimp only [apply0]
    · exact ((frame_setAct _ _ _ _ (by decide)).trans (frame_setBus _ _ _ _ (by by_fields))).trans
        (frame_setLock _ _ _ (by decide))
    all_goals exact frame_setAct _ _ _ _ (by decide)
  case xAwaitEnd | readBus | stopNoop => exact Frame.refl _ _
  case rlPoll => exact rlIdleCheck_frame _ _
  case wiBegin | wiEnd | wiCancel => exact frame_setWaiter _ _ _ _ (by decide)
  case wiJoined | wiIdle | expectTimeout | expectCancelReq =>
    dsimp only [apply0]
    split
    · exact frame_setWaiter _ _ _ _ (by decide)
    · exact Frame.refl _ _
  case stopBegin | expectBegin => exact (frame_setBus _ _ _ _ (by by_fields)).trans (frame_setWaiter _ _ _ _ (by decide))
  case wiRecheck | expectEnd | expectCancel =>
    dsimp only [apply0]
    split
    · exact (frame_setBus _ _ _ _ (by by_fields)).trans (frame_setWaiter _ _ _ _ (by decide))
    · exact Frame.refl _ _
  case stopEnd =>
    dsimp only [apply0]
    split
    · refine Frame.trans ?_ (frame_setWaiter _ _ _ _ (by decide))
      split
      · exact (frame_setBus _ _ _ _ (by by_fields)).trans (frame_setBus _ _ _ _ (by by_fields))
      · exact frame_setBus _ _ _ _ (by by_fields)
    · exact Frame.refl _ _
  case rlExit =>
    refine Frame.append (fs := [.bus .idle]) ?_ (frame_setBus _ _ _ _ (by by_fields))
    split
    · exact rlIdleCheck_frame _ _
    · exact Frame.refl _ _
  case rlDropExit => exact (rlIdleCheck_frame _ _).append (frame_setBus _ _ _ _ (by by_fields))
  case hSkip p _ _ _ => exact frame_mapAct w _ p _ _ (by decide)

/-- `w'` agrees with `w` on the fields that `P` picks: what a predicate that reads only those needs in order to carry over.
    The fields are given by a test, `Agree (· matches .bus .hist | .bus .maxh) w w'`, not by a list: whether a label writes one
    of them (`touches`) is then evaluated by one `match` per field the label writes. -/
def Agree (P : Fld → Bool) (w w' : World) : Prop := ∀ f, P f = true → f.same w w'

def Fld.isBus : Fld → Bool | .bus _ => true | _ => false
def Fld.isEv : Fld → Bool | .ev _ => true | _ => false
def Fld.isInst : Fld → Bool | .inst _ => true | _ => false

theorem Agree.bus_eq {w w' : World} (h : Agree Fld.isBus w w') : w'.bus = w.bus :=
  funext fun b => BusF.ext fun f => h (.bus f) rfl b

theorem Agree.ev_eq {w w' : World} (h : Agree Fld.isEv w w') : w'.ev = w.ev :=
  funext fun e => EvF.ext fun f => h (.ev f) rfl e

theorem Agree.inst_eq {w w' : World} (h : Agree Fld.isInst w w') : w'.inst = w.inst :=
  funext fun i => InstF.ext fun f => h (.inst f) rfl i

/-- the equations of an agreement written out for a list of fields: `obtain ⟨h₁, h₂, _⟩ := h.all [.bus .parallel, .lock]` names
    them (as `guard_all` names the checks of a guard) -/
def Fld.SameAll (w w' : World) : List Fld → Prop
  | [] => True
  | f :: fs => f.same w w' ∧ Fld.SameAll w w' fs

theorem Agree.all {P : Fld → Bool} {w w' : World} (h : Agree P w w') (fs : List Fld) (hfs : fs.all P = true := by rfl) :
    Fld.SameAll w w' fs := by
  induction fs with
  | nil => trivial
  | cons f fs ih =>
    rw [List.all_cons, Bool.and_eq_true] at hfs
    exact ⟨h f hfs.1, ih hfs.2⟩

namespace Frame
variable {ws : List Fld} {P : Fld → Bool} {w w' : World}

theorem agree (h : Frame ws w w') (hd : ws.any P = false) : Agree P w w' :=
  fun f hf => h f fun hm => List.any_eq_false.mp hd f hm hf

theorem bus_eq (h : Frame ws w w') (hd : ws.any Fld.isBus = false) : w'.bus = w.bus := (h.agree hd).bus_eq
theorem ev_eq (h : Frame ws w w') (hd : ws.any Fld.isEv = false) : w'.ev = w.ev := (h.agree hd).ev_eq
theorem inst_eq (h : Frame ws w w') (hd : ws.any Fld.isInst = false) : w'.inst = w.inst := (h.agree hd).inst_eq

end Frame

def touches (l : Label) (P : Fld → Bool) : Bool := (writes l).any P

/-- induction over the reachable states for a predicate that does not read the table of blocked external tasks: the step
    case is about `apply0`. `hwake` is `fun _ _ _ h => h` where `P` is a `def` (the two propositions are the same by
    unfolding), and rebuilds the structure field by field where `P` is one. -/
theorem Reachable.induction0 {P : World → Prop} (h0 : P {})
    (hwake : ∀ w W n, P w → P { w with waiter := W, nx := n })
    (hstep : ∀ w l, Reachable w → P w → guard w l = true → P (apply0 w l)) {w : World} (hr : Reachable w) : P w :=
  hr.induction h0 fun w l hr hI hg => by
    obtain ⟨W, n, h⟩ := wake_eq (apply0 w l)
    rw [apply, h]
    exact hwake _ W n (hstep w l hr hI hg)

theorem apply0_keeps {w : World} {l : Label} {f : Fld} (h : (writes l).contains f = false) : f.same w (apply0 w l) :=
  apply0_frame w l f (by simpa using h)

theorem apply0_ni (w : World) (l : Label) : (apply0 w l).ni = match l with | .hSched .. => w.ni + 1 | _ => w.ni := by
  have keep := fun h => apply0_keeps (w := w) (l := l) (f := .ni) h
  cases l
  case hSched p i b e k => show (applySched w p i b e k).ni = _; unfold applySched; split <;> rfl
  all_goals exact keep rfl

theorem new_inst_of_lt {w : World} {l : Label} {j : IId} (hg : guard w l = true) (hj : j < (apply0 w l).ni)
    (hold : ¬ j < w.ni) : j = w.ni ∧ ∃ p b e k, l = .hSched p j b e k := by
  rw [apply0_ni] at hj
  split at hj
  · have hji : j = w.ni := Nat.le_antisymm (Nat.lt_succ_iff.mp hj) (Nat.le_of_not_lt hold)
    exact ⟨hji, _, _, _, _, by rw [hji, eq_of_beq (guard_all hg).1]⟩
  · exact absurd hj hold

theorem apply0_nb (w : World) (l : Label) : (apply0 w l).nb = match l with | .newBus .. => w.nb + 1 | _ => w.nb := by
  have keep := fun h => apply0_keeps (w := w) (l := l) (f := .nb) h
  cases l
  case newBus => rfl
  all_goals exact keep rfl

theorem apply0_ne (w : World) (l : Label) : (apply0 w l).ne = match l with | .newEvent .. => w.ne + 1 | _ => w.ne := by
  have keep := fun h => apply0_keeps (w := w) (l := l) (f := .ne) h
  cases l
  case newEvent => rfl
  all_goals exact keep rfl

theorem apply0_ne_mono (w : World) (l : Label) : w.ne ≤ (apply0 w l).ne := by
  rw [apply0_ne]; split <;> simp

theorem apply0_ni_mono (w : World) (l : Label) : w.ni ≤ (apply0 w l).ni := by
  rw [apply0_ni]; split <;> simp

theorem apply0_nb_mono (w : World) (l : Label) : w.nb ≤ (apply0 w l).nb := by
  rw [apply0_nb]; split <;> simp

end Bubus
