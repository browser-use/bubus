/-
  Bubus.Proofs.Run — accepted steps, runs and reachable states: a step is a guard and an effect; what every accepted
  label preserves holds along every run, and of every reachable state. How a guard is read and established (`guard_all`,
  `guard_of_all`), and what the checks shared by several labels say (`actIs_some`, `act_worked_off`, `idle_of_guard`,
  `hSched_pending`, `hSkip_terminal`).
-/
import Bubus.Model.Step
namespace Bubus

theorem step_some {w w' : World} {l : Label} (h : step w l = some w') : guard w l = true ∧ w' = apply w l := by
  unfold step at h
  split at h
  · exact ⟨by assumption, by injection h with h; exact h.symm⟩
  · cases h

def Checks.All : Checks → Prop
  | [] => True
  | (_, c) :: cs => c = true ∧ Checks.All cs

/-- a label is accepted exactly when it passes each of its checks, in the order of `checks` -/
theorem guard_iff_all {w : World} {l : Label} : guard w l = true ↔ Checks.All (checks w l) := by
  unfold guard Checks.ok
  generalize checks w l = cs
  induction cs with
  | nil => exact ⟨fun _ => trivial, fun _ => rfl⟩
  | cons c cs ih => rw [List.all_cons, Bool.and_eq_true, ih]; rfl

/-- for a given kind of label `obtain ⟨h₁, _, h₃, _⟩ := guard_all hg` names the checks that are used -/
theorem guard_all {w : World} {l : Label} (hg : guard w l = true) : Checks.All (checks w l) := guard_iff_all.mp hg

/-- … and `guard_of_all ⟨c₁, c₂, …, trivial⟩` says which hypothesis meets which check -/
theorem guard_of_all {w : World} {l : Label} (h : Checks.All (checks w l)) : guard w l = true := guard_iff_all.mpr h

theorem actIs_some {w : World} {p : Proc} {b : BId} {e : EId} (h : actIs w p b e = true) :
    ∃ A, w.act p = some A ∧ A.bus = b ∧ A.ev = e := by
  unfold actIs at h
  cases hA : w.act p with
  | none => simp [hA] at h
  | some A => exact ⟨A, rfl, by simpa [hA] using h⟩

/-- the first two checks of `peEnd` and of `walWrite`: the executor's open activation is the one for this bus and event, and
    each of its handlers has been scheduled and has finished -/
theorem act_worked_off {w : World} {p : Proc} {b : BId} {e : EId} (hact : actIs w p b e = true)
    (hout : (match w.act p with | some A => A.todo.isEmpty && A.running.isEmpty | none => false) = true) :
    ∃ A, w.act p = some A ∧ A.bus = b ∧ A.ev = e ∧ A.todo = [] ∧ A.running = [] := by
  obtain ⟨A, hA, hb, he⟩ := actIs_some hact
  simp [hA] at hout
  exact ⟨A, hA, hb, he, hout.1, hout.2⟩

/-- the check of `hCancel`, `hEnd` and `awaitEnd` that the instance has no inline activation open and no event in hand -/
theorem idle_of_guard {w : World} {i : IId} (h : ((w.act (.inst i)).isNone && (w.inst i).took.isNone) = true) :
    w.act (.inst i) = none ∧ (w.inst i).took = none := by
  rw [Bool.and_eq_true, Option.isNone_iff_eq_none, Option.isNone_iff_eq_none] at h
  exact h

theorem hSched_pending {w : World} {p : Proc} {i : IId} {b : BId} {e : EId} {k : HId}
    (hg : guard w (.hSched p i b e k) = true) : ∃ r, (w.ev e).getRes? b k = some r ∧ r.status = .pending := by
  obtain ⟨_, _, _, _, _, _, hp, _⟩ := guard_all hg
  split at hp
  · exact ⟨_, ‹_›, eq_of_beq hp⟩
  · cases hp

theorem hSkip_terminal {w : World} {p : Proc} {b : BId} {e : EId} {k : HId}
    (hg : guard w (.hSkip p b e k) = true) : ∃ r, (w.ev e).getRes? b k = some r ∧ r.terminal = true := by
  obtain ⟨_, _, _, ht, _⟩ := guard_all hg
  split at ht
  · exact ⟨_, ‹_›, ht⟩
  · cases ht

/-- what every accepted label of a run preserves holds at its end (`hstep` need only speak of the labels of the run at hand) -/
theorem run_invariant_on {P : World → Prop} {w w' : World} {ls : List Label}
    (hstep : ∀ w, ∀ l ∈ ls, P w → guard w l = true → P (apply w l)) (h0 : P w) (h : run w ls = some w') : P w' := by
  induction ls generalizing w with
  | nil => cases h; exact h0
  | cons l ls ih =>
    simp only [run] at h
    split at h
    · rename_i w1 hs
      obtain ⟨hg, rfl⟩ := step_some hs
      exact ih (fun w l' hl' => hstep w l' (List.mem_cons_of_mem _ hl')) (hstep w l List.mem_cons_self h0 hg) h
    · cases h

theorem run_invariant {P : World → Prop} (hstep : ∀ w l, P w → guard w l = true → P (apply w l))
    {w w' : World} {ls : List Label} (h0 : P w) (h : run w ls = some w') : P w' :=
  run_invariant_on (fun w l _ => hstep w l) h0 h

theorem run_snoc (w : World) (ls : List Label) (l : Label) : run w (ls ++ [l]) = (run w ls).bind fun w1 => step w1 l := by
  induction ls generalizing w with
  | nil => cases hs : step w l <;> simp [run, hs]
  | cons a t ih => cases hs : step w a <;> simp [run, hs, ih]

theorem Reachable.step {w w' : World} {l : Label} (hr : Reachable w) (hs : step w l = some w') : Reachable w' := by
  obtain ⟨ls, h⟩ := hr
  exact ⟨ls ++ [l], by rw [run_snoc, h]; exact hs⟩

theorem Reachable.induction {P : World → Prop} (h0 : P {})
    (hstep : ∀ w l, Reachable w → P w → guard w l = true → P (apply w l)) {w : World} (hr : Reachable w) : P w := by
  obtain ⟨ls, h⟩ := hr
  refine (run_invariant (P := fun w => Reachable w ∧ P w) ?_ ⟨⟨[], rfl⟩, h0⟩ h).2
  intro w l ⟨hr, hp⟩ hg
  exact ⟨hr.step (if_pos hg), hstep w l hr hp hg⟩

end Bubus
