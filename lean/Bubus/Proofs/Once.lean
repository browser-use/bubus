/-
  Bubus.Proofs.Once — C01 (at most once) as an invariant of all reachable states:
  for every handler instance that exists, the result of its (bus, handler) on its event exists and is not pending;
  since scheduling a handler requires a pending result, no (event, bus, handler) ever gets a second instance.
  `Terminal` beside `Started`: what recording an outcome (`hFinish`) makes of such a result, for NoSkip and Finished.
-/
import Bubus.Proofs.Forward
import Bubus.Proofs.Guards
import Bubus.Spec.Monitors
namespace Bubus

/-- the result of (bus b, handler k) on the event exists and has left `pending` -/
def Started (E : Ev) (b : BId) (k : HId) : Prop := ∃ r, E.getRes? b k = some r ∧ r.status ≠ .pending

theorem EvLe.started {E E' : Ev} (h : EvLe E E') {b : BId} {k : HId} : Started E b k → Started E' b k := by
  intro ⟨r, hr, hst⟩
  obtain ⟨r', hr', hle⟩ := h.results b k r hr
  refine ⟨r', hr', fun hp => ?_⟩
  rw [hp] at hle
  cases hs : r.status <;> simp [hs, Status.rank] at hle hst

def idOf (I : Inst) : EId × BId × HId := (I.ev, I.bus, I.hid)

theorem apply0_inst_id (w : World) (l : Label) (j : IId) (hj : j < w.ni) (hg : guard w l = true) :
    idOf ((apply0 w l).inst j) = idOf (w.inst j) := by
  by_cases hw : touches l (· matches .inst .ev | .inst .bus | .inst .hid) = false
  · have h := (apply0_frame w l).agree hw
    unfold idOf
    rw [h (.inst .ev) rfl j, h (.inst .bus) rfl j, h (.inst .hid) rfl j]
  · cases l <;> first | exact absurd rfl hw | skip
    case hSched p i b e k =>
      obtain ⟨hi, _⟩ := guard_all hg
      have hji : j ≠ i := by rw [eq_of_beq hi]; exact Nat.ne_of_lt hj
      obtain ⟨d, h⟩ := applySched_inst w p i b e k
      show idOf ((applySched w p i b e k).inst j) = _
      rw [h, setInst_inst_other _ _ _ _ hji]

/-- every existing instance's result has been started, and its event exists (an event slot beyond `ne` would be
    overwritten by `newEvent`, so "stays started" is only true of existing events) -/
def OnceInv (w : World) : Prop :=
  ∀ j, j < w.ni → Started (w.ev (w.inst j).ev) (w.inst j).bus (w.inst j).hid ∧ (w.inst j).ev < w.ne

theorem onceInv_of_frame (w w' : World) (hni : w'.ni = w.ni) (hne : w.ne ≤ w'.ne)
    (hinst : ∀ j, j < w.ni → (w'.inst j).ev = (w.inst j).ev ∧ (w'.inst j).bus = (w.inst j).bus ∧ (w'.inst j).hid = (w.inst j).hid)
    (hres : ∀ x b k, x < w.ne → Started (w.ev x) b k → Started (w'.ev x) b k)
    (h : OnceInv w) : OnceInv w' := by
  intro j hj
  rw [hni] at hj
  obtain ⟨h1, h2⟩ := h j hj
  obtain ⟨e1, e2, e3⟩ := hinst j hj
  rw [e1, e2, e3]
  exact ⟨hres _ _ _ h2 h1, Nat.lt_of_lt_of_le h2 hne⟩

theorem hSched_new_instance (w : World) (p : Proc) (b : BId) (e : EId) (k : HId) (r : Res)
    (hr : (w.ev e).getRes? b k = some r) :
    Started ((apply0 w (.hSched p w.ni b e k)).ev e) b k ∧ idOf ((apply0 w (.hSched p w.ni b e k)).inst w.ni) = (e, b, k) := by
  obtain ⟨d, h⟩ := applySched_inst w p w.ni b e k
  show Started ((applySched w p w.ni b e k).ev e) b k ∧ idOf ((applySched w p w.ni b e k).inst w.ni) = (e, b, k)
  rw [applySched_ev, h, modEv_eq, setEv_ev_same, setInst_inst_same]
  exact ⟨⟨_, getRes_updRes _ (fun _ => ⟨rfl, rfl⟩) hr, nofun⟩, rfl⟩

theorem onceInv_apply0 (w : World) (l : Label) (hg : guard w l = true) (hI : OnceInv w) : OnceInv (apply0 w l) := by
  intro j hj
  by_cases hold : j < w.ni
  · -- an existing instance keeps its identity, an existing event what has been started on it
    obtain ⟨h1, h2⟩ := hI j hold
    have hid := apply0_inst_id w l j hold hg
    simp only [idOf, Prod.mk.injEq] at hid
    rw [hid.1, hid.2.1, hid.2.2]
    exact ⟨(apply0_evLe w l _ h2 hg).started h1, Nat.lt_of_lt_of_le h2 (apply0_ne_mono w l)⟩
  · -- a new instance: only `hSched` creates one, with its result just marked started
    obtain ⟨rfl, p, b, e, k, rfl⟩ := new_inst_of_lt hg hj hold
    obtain ⟨_, hne, _⟩ := guard_all hg
    obtain ⟨r, hr, _⟩ := hSched_pending hg
    obtain ⟨hst, hid⟩ := hSched_new_instance w p b e k r hr
    simp only [idOf, Prod.mk.injEq] at hid
    rw [hid.1, hid.2.1, hid.2.2]
    exact ⟨hst, Nat.lt_of_lt_of_le (of_decide_eq_true hne) (apply0_ne_mono w _)⟩

theorem onceInv_init : OnceInv ({} : World) := fun _ hj => absurd hj (Nat.not_lt_zero _)

theorem onceInv_reachable {w : World} (hr : Reachable w) : OnceInv w :=
  hr.induction0 onceInv_init (fun _ _ _ h => h) fun w l _ hI hg => onceInv_apply0 w l hg hI

namespace Thm

/-- **C01 (at most once), for every reachable state**: whatever the programs, nesting, errors, timeouts, re-dispatches
    and schedule, when a handler is scheduled for (event, bus, handler) no instance for that triple exists yet —
    no handler ever runs twice for the same event on the same bus. -/
theorem C01_no_handler_runs_twice (w w' : World) (hr : Reachable w) (p : Proc) (i : IId) (b : BId) (e : EId) (k : HId)
    (hs : step w (.hSched p i b e k) = some w') : C01.once w b e k = true := by
  have hI := onceInv_reachable hr
  obtain ⟨r, hres, hpend⟩ := C01_scheduling_requires_a_pending_result w w' p i b e k hs
  simp only [C01.once, insts, Bool.not_eq_true', List.any_eq_false, List.mem_range, Bool.and_eq_true, beq_iff_eq,
    not_and]
  intro j hj hbe hk
  obtain ⟨hb, he⟩ := hbe
  obtain ⟨⟨r', hr', hst⟩, _⟩ := hI j hj
  rw [hb, he, hk, hres] at hr'
  injection hr' with hr'
  subst hr'
  exact hst hpend

end Thm

/-- the result of (bus b, handler k) on the event exists and is terminal (completed or error) -/
def Terminal (E : Ev) (b : BId) (k : HId) : Prop := ∃ r, E.getRes? b k = some r ∧ r.terminal = true

theorem EvLe.terminal {E E' : Ev} (h : EvLe E E') {b : BId} {k : HId} : Terminal E b k → Terminal E' b k := by
  intro ⟨r, hr, ht⟩
  obtain ⟨r', hr', hle⟩ := h.results b k r hr
  exact ⟨r', hr', r'.terminal_iff_rank.mpr (Nat.le_trans (r.terminal_iff_rank.mp ht) hle)⟩

theorem apply0_terminal (w : World) (l : Label) (x : EId) (b : BId) (k : HId) (hx : x < w.ne)
    (hg : guard w l = true) (h : Terminal (w.ev x) b k) : Terminal ((apply0 w l).ev x) b k :=
  (apply0_evLe w l x hx hg).terminal h

theorem applyFinish_makes_terminal (w : World) (i : IId) (r : Fin)
    (hst : Started (w.ev (w.inst i).ev) (w.inst i).bus (w.inst i).hid) :
    Terminal ((applyFinish w i r).ev (w.inst i).ev) (w.inst i).bus (w.inst i).hid := by
  obtain ⟨r0, hr0, _⟩ := hst
  have h1 : Terminal ((finishCore w i r).ev (w.inst i).ev) (w.inst i).bus (w.inst i).hid := by
    rw [finishCore_ev]
    simp only [modEv_eq, setEv_ev]
    exact ⟨_, getRes_updRes _ (fun _ => ⟨rfl, rfl⟩) hr0, by cases r <;> simp [Fin.status, Res.terminal]⟩
  rw [applyFinish_eq]
  split
  · exact (cancelPendingChildren_evLe _ _ _ _).terminal h1
  · exact h1

/-! stages that leave the instances / the events alone: instances of their frames -/

theorem cancelPendingChildren_inst (fuel : Nat) (w : World) (x : EId) : (cancelPendingChildren w fuel x).inst = w.inst :=
  (cancelPendingChildren_frame w fuel x).inst_eq rfl
theorem releaseRl_inst (w : World) (b : BId) : (releaseRl w b).inst = w.inst := (releaseRl_frame w b).inst_eq rfl
theorem releaseRl_ev (w : World) (b : BId) : (releaseRl w b).ev = w.ev := (releaseRl_frame w b).ev_eq rfl
theorem peClose_inst (w : World) (p : Proc) (b : BId) (e : EId) : (peClose w p b e).inst = w.inst :=
  (peClose_frame w p b e).inst_eq rfl
theorem peOpen_inst (w : World) (p : Proc) (b : BId) (e : EId) : (peOpen w p b e).inst = w.inst :=
  (peOpen_frame w p b e).inst_eq rfl

end Bubus
