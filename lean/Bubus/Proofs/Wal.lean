/-
  Bubus.Proofs.Wal — C17: every line of a bus's write-ahead log belongs to an event that bus has taken from its queue for
  processing, as an invariant of all reachable states (together with the facts it needs: whatever an executor has in hand -
  an event taken by a run loop or by an awaiting handler, an open activation - was taken from that bus's queue).
-/
import Bubus.Proofs.RunLoop
import Bubus.Proofs.Fifo
namespace Bubus

/-- whatever is in some executor's hand on bus `b`, and every line of `b`'s log, is an event `b` has taken from its queue
    (`b < w.nb`: `newBus` resets `taken` of the next id, so the claim has to be about existing buses) -/
structure WInv (w : World) : Prop where
  act : ∀ p A, w.act p = some A → A.bus < w.nb ∧ A.ev ∈ (w.bus A.bus).taken
  rl : ∀ b e, (w.bus b).rl = .took e → b < w.nb ∧ e ∈ (w.bus b).taken
  inst : ∀ i b e, (w.inst i).took = some (b, e) → b < w.nb ∧ e ∈ (w.bus b).taken
  wal : ∀ b e, e ∈ (w.bus b).walLines → b < w.nb ∧ e ∈ (w.bus b).taken

/-! What is in hand after a label was in hand before, or the label is the one that puts it there. -/

theorem rl_took_after {w : World} {l : Label} (hg : guard w l = true) {b : BId} {e : EId}
    (h : ((apply0 w l).bus b).rl = .took e) : (w.bus b).rl = .took e ∨ ∃ x, l = .take (.rl x) b e := by
  cases rl_move hg b with
  | other hs _ => exact .inl (hs.symm.trans h)
  | take _ _ hs _ => cases hs.symm.trans h; exact .inr ⟨_, rfl⟩
  | trip _ hs | end_ _ hs => rcases hs with hs | hs <;> cases hs.symm.trans h
  | newBus _ hs | create _ _ hs | begin _ hs | abort _ hs | exit _ hs | cancelled _ hs | dropExit _ hs =>
    cases hs.symm.trans h

theorem inst_took_after {w : World} {l : Label} {i : IId} {b : BId} {e : EId}
    (h : ((apply0 w l).inst i).took = some (b, e)) : (w.inst i).took = some (b, e) ∨ l = .take (.inst i) b e := by
  rw [apply0_took] at h
  -- the new value is the old one or, for the instance the label is about, `some` of what it takes (`take`) or `none`
  split at h <;> (try split at h) <;> first
    | exact .inl h
    | (cases h; exact .inr (by subst i; rfl))
    | cases h

theorem wal_line_after {w : World} {l : Label} {b : BId} {e : EId} (h : e ∈ ((apply0 w l).bus b).walLines) :
    e ∈ (w.bus b).walLines ∨ ∃ p, l = .walWrite p b e true := by
  rw [apply0_walLines] at h
  split at h
  · split at h
    · cases h
    · exact .inl h
  · split at h
    · rename_i p _ _ hb
      subst hb
      refine (List.mem_append.mp h).imp id fun h => ⟨p, ?_⟩
      rw [List.mem_singleton.mp h]
    · exact .inl h
  · exact .inl h

theorem winv_apply0 (w : World) (l : Label) (hg : guard w l = true) (hI : WInv w) : WInv (apply0 w l) := by
  have hnb := apply0_nb_mono w l
  -- what an existing bus has taken it keeps: `taken` only grows, and `newBus` creates the bus with the next id
  have keep : ∀ b x, b < w.nb ∧ x ∈ (w.bus b).taken → b < (apply0 w l).nb ∧ x ∈ ((apply0 w l).bus b).taken := by
    intro b x ⟨hb, hx⟩
    refine ⟨Nat.lt_of_lt_of_le hb hnb, ?_⟩
    rw [apply0_taken]
    split
    · have hb' : _ = w.nb := guard_rl hg
      split
      · rename_i h; rw [h, hb'] at hb; exact absurd hb (Nat.lt_irrefl _)
      · exact hx
    · split
      · exact List.mem_append_left _ hx
      · exact hx
    · exact hx
  -- a `take` puts the event among what the bus has taken
  have taken : ∀ p b e, l = .take p b e → b < (apply0 w l).nb ∧ e ∈ ((apply0 w l).bus b).taken := by
    rintro p b e rfl
    obtain ⟨hb, _⟩ := guard_all hg
    exact ⟨Nat.lt_of_lt_of_le (of_decide_eq_true hb) hnb, by rw [apply0_taken]; simp⟩
  refine ⟨fun p A h => ?_, fun b e h => ?_, fun i b e h => ?_, fun b e h => ?_⟩
  · cases act_origin h with
    | opened =>
      -- the guard of `peBegin`: the executor has taken the event from the bus
      obtain ⟨_, hp, _⟩ := guard_all hg
      cases p
      · exact keep _ _ (hI.rl _ _ (guard_rl hg).2.1)
      · exact keep _ _ (hI.inst _ _ _ (eq_of_beq hp))
      · cases hp
    | same hA | sched hA | skip hA | finish _ hA | wal hA => have h0 := hI.act p _ hA; exact keep _ _ h0
  · rcases rl_took_after hg h with h | ⟨x, rfl⟩
    · exact keep _ _ (hI.rl b e h)
    · exact taken _ _ _ rfl
  · rcases inst_took_after h with h | rfl
    · exact keep _ _ (hI.inst i b e h)
    · exact taken _ _ _ rfl
  · rcases wal_line_after h with h | ⟨p, rfl⟩
    · exact keep _ _ (hI.wal b e h)
    · -- the line is for the event of the activation that writes it
      obtain ⟨A, hA, rfl, rfl⟩ := actIs_some (guard_all hg).1
      exact keep _ _ (hI.act p A hA)

theorem winv_reachable {w : World} (hr : Reachable w) : WInv w :=
  hr.induction0
    ⟨fun _ _ h => (by cases h), fun _ _ h => (by cases h), fun _ _ _ h => (by cases h), fun _ _ h => (by cases h)⟩
    (fun _ _ _ h => ⟨h.act, h.rl, h.inst, h.wal⟩) fun w l _ hI hg => winv_apply0 w l hg hI

namespace Thm

/-- C17, for every reachable state: every line of a bus's write-ahead log is an event that this bus has taken from its own
    queue for processing - the log never names an event the bus did not process, nor one of another bus. -/
theorem C17_every_wal_line_is_an_event_the_bus_took_for_processing (w : World) (hr : Reachable w) (b : BId) (e : EId)
    (h : e ∈ (w.bus b).walLines) : e ∈ (w.bus b).taken :=
  ((winv_reachable hr).wal b e h).2

/-- … and, with the FIFO invariant, an event the bus had accepted: the log is drawn from what was enqueued on that bus. -/
theorem C17_every_wal_line_was_enqueued_on_the_bus (w : World) (hr : Reachable w) (b : BId) (e : EId)
    (h : e ∈ (w.bus b).walLines) : e ∈ (w.bus b).enq :=
  (C02_taken_is_a_prefix_of_enqueued w hr b).subset (C17_every_wal_line_is_an_event_the_bus_took_for_processing w hr b e h)

/-- every open activation, in every reachable state, is for an event its bus took from its queue (what an executor
    processes is never invented) -/
theorem C14_an_activation_processes_only_what_its_bus_took (w : World) (hr : Reachable w) (p : Proc) (A : Act)
    (h : w.act p = some A) : A.ev ∈ (w.bus A.bus).taken :=
  ((winv_reachable hr).act p A h).2

end Thm

end Bubus
