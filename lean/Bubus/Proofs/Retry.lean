/-
  Bubus.Proofs.Retry — C19, the retry loop of the `retry` decorator, for outcome lists of any length: at most
  `retries + 1` calls; after any number k ≤ retries of failed attempts that are retried (listed exceptions, cut-offs when
  TimeoutError is retried) the (k+1)-th attempt decides the call when it is a success, an unlisted exception, a
  cancellation, a cut-off that is not retried — or simply the last permitted attempt, whatever it does: then "the last
  exception propagates".  In each case exactly k+1 calls were made and the waits had exponents 0 … k-1.
-/
import Bubus.Model.Retry
namespace Bubus.Thm
open Bubus Retry

/-- an attempt after which the loop goes round again (while attempts remain) -/
def retried (tl : Bool) : Att → Bool
  | .listed _ => true
  | .overrun => tl
  | _ => false

/-- how the decorated call ends when attempt `a` is the one that decides it -/
def finalOf : Att → Final
  | .ok v => .ret v
  | .listed x => .raised x
  | .unlisted x => .raised x
  | .overrun => .timeout
  | .cancelled => .cancelled

/-- one round of `_execute_with_retries`: a retried failure with attempts left costs a call and a wait, and the loop
    goes on; any other attempt decides the call -/
theorem retryLoop_cons (retries : Nat) (tl : Bool) (attempt : Nat) (a : Att) (rest : List Att) :
    retryLoop retries tl attempt (a :: rest) =
      if retried tl a = true ∧ attempt < retries then
        { calls := (retryLoop retries tl (attempt + 1) rest).calls + 1,
          waits := attempt :: (retryLoop retries tl (attempt + 1) rest).waits,
          final := (retryLoop retries tl (attempt + 1) rest).final }
      else { calls := 1, waits := [], final := finalOf a } := by
  conv => lhs; unfold retryLoop
  cases a with
  | overrun => cases tl <;> simp [retried, finalOf]
  | _ => simp [retried, finalOf]

theorem retryLoop_shape (retries : Nat) (tl : Bool) (atts : List Att) (attempt : Nat) (h : attempt ≤ retries) :
    ∃ n, attempt + n ≤ retries ∧ (retryLoop retries tl attempt atts).waits = List.range' attempt n ∧
      ((retryLoop retries tl attempt atts).calls = n + 1 ∨
        (retryLoop retries tl attempt atts).calls = n ∧ atts.length = n) := by
  induction atts generalizing attempt with
  | nil => exact ⟨0, h, rfl, .inr ⟨rfl, rfl⟩⟩
  | cons a rest ih =>
    rw [retryLoop_cons]
    split
    · rename_i hr
      obtain ⟨n, hn, hw, hc⟩ := ih (attempt + 1) hr.2
      exact ⟨n + 1, by omega, by rw [hw]; rfl, by simpa using hc⟩
    · exact ⟨0, h, rfl, .inl rfl⟩

/-- C19: the wrapped function is called at most `retries + 1` times, whatever the attempts do. -/
theorem C19_at_most_retries_plus_one_calls (retries : Nat) (tl : Bool) (atts : List Retry.Att) :
    (Retry.run retries tl atts).calls ≤ retries + 1 := by
  obtain ⟨n, hn, -, hc⟩ := retryLoop_shape retries tl atts 0 (Nat.zero_le _)
  unfold Retry.run
  omega

/-- C19: a successful first attempt is returned at once: one call, no wait. -/
theorem C19_first_success_returns_at_once (retries : Nat) (tl : Bool) (v : Nat) (rest : List Retry.Att) :
    Retry.run retries tl (.ok v :: rest) = { calls := 1, waits := [], final := .ret v } :=
  retryLoop_cons retries tl 0 (.ok v) rest

/-- C19: an exception not listed in `retry_on` propagates immediately, without another attempt. -/
theorem C19_unlisted_exception_propagates_at_once (retries : Nat) (tl : Bool) (x : Nat) (rest : List Retry.Att) :
    Retry.run retries tl (.unlisted x :: rest) = { calls := 1, waits := [], final := .raised x } :=
  retryLoop_cons retries tl 0 (.unlisted x) rest

/-- C19: cancellation of the caller is never swallowed or retried. -/
theorem C19_cancellation_is_not_retried (retries : Nat) (tl : Bool) (rest : List Retry.Att) :
    Retry.run retries tl (.cancelled :: rest) = { calls := 1, waits := [], final := .cancelled } :=
  retryLoop_cons retries tl 0 .cancelled rest

/-- when the outcome list covers all `retries + 1` possible attempts, some attempt decides the call: after `n` waits with
    exponents 0 … n-1 it is the `n+1`-th call -/
theorem run_covering (retries : Nat) (tl : Bool) (atts : List Att) (hlen : retries + 1 ≤ atts.length) :
    ∃ n, (Retry.run retries tl atts).waits = List.range n ∧ (Retry.run retries tl atts).calls = n + 1 := by
  obtain ⟨n, hn, hw, hc⟩ := retryLoop_shape retries tl atts 0 (Nat.zero_le _)
  exact ⟨n, by rw [List.range_eq_range']; exact hw, by unfold Retry.run; omega⟩

/-- C19: the wait before attempt k+1 uses exponent k: the waits are `wait * backoff ** 0, … ** 1, …`, one between
    each pair of consecutive calls (for any outcome list that covers all `retries + 1` possible attempts). -/
theorem C19_wait_exponents_are_0_1_2 (retries : Nat) (tl : Bool) (atts : List Retry.Att)
    (hlen : retries + 1 ≤ atts.length) :
    (Retry.run retries tl atts).waits = List.range ((Retry.run retries tl atts).calls - 1) := by
  obtain ⟨n, hw, hc⟩ := run_covering retries tl atts hlen
  rw [hw, hc]
  rfl

/-- the loop in closed form: after the retried failures `pre`, attempt `a` decides the call if it is not retried or no
    attempt is left -/
theorem retryLoop_decided (retries : Nat) (tl : Bool) (pre : List Att) (a : Att) (rest : List Att) (attempt : Nat)
    (hpre : ∀ x ∈ pre, retried tl x = true) (hk : attempt + pre.length ≤ retries)
    (hd : retried tl a = false ∨ attempt + pre.length = retries) :
    retryLoop retries tl attempt (pre ++ a :: rest) =
      { calls := pre.length + 1, waits := (List.range pre.length).map (· + attempt), final := finalOf a } := by
  induction pre generalizing attempt with
  | nil =>
    have : ¬(retried tl a = true ∧ attempt < retries) := fun ⟨hr, hlt⟩ =>
      hd.elim (fun h => Bool.false_ne_true (h.symm.trans hr)) (Nat.ne_of_lt hlt)
    rw [List.nil_append, retryLoop_cons, if_neg this]
    rfl
  | cons p pre ih =>
    simp only [List.length_cons] at hk hd
    rw [List.cons_append, retryLoop_cons, if_pos ⟨hpre p List.mem_cons_self, by omega⟩,
      ih (attempt + 1) (fun x hx => hpre x (List.mem_cons_of_mem _ hx)) (by omega) (hd.imp id fun h => by omega)]
    simp [List.range_succ_eq_map, Function.comp_def, Nat.add_assoc, Nat.add_comm 1]

theorem run_decided (retries : Nat) (tl : Bool) (pre : List Att) (a : Att) (rest : List Att)
    (hpre : ∀ x ∈ pre, retried tl x = true) (hk : pre.length ≤ retries)
    (hd : retried tl a = false ∨ pre.length = retries) :
    Retry.run retries tl (pre ++ a :: rest) =
      { calls := pre.length + 1, waits := List.range pre.length, final := finalOf a } := by
  simpa [Retry.run] using retryLoop_decided retries tl pre a rest 0 hpre (by simpa using hk) (by simpa using hd)

/-- C19: k ≤ retries retried failures followed by a success: the value is returned at once, after exactly k+1 calls
    and waits with exponents 0 … k-1; nothing after the success is attempted. -/
theorem C19_success_after_k_failures_returns_at_once (retries : Nat) (tl : Bool) (pre : List Att) (v : Nat)
    (rest : List Att) (hpre : ∀ x ∈ pre, retried tl x = true) (hk : pre.length ≤ retries) :
    Retry.run retries tl (pre ++ .ok v :: rest) =
      { calls := pre.length + 1, waits := List.range pre.length, final := .ret v } :=
  run_decided retries tl pre (.ok v) rest hpre hk (.inl rfl)

/-- C19: an exception not listed in `retry_on` propagates immediately wherever in the sequence it occurs. -/
theorem C19_unlisted_exception_propagates_wherever_it_occurs (retries : Nat) (tl : Bool) (pre : List Att) (x : Nat)
    (rest : List Att) (hpre : ∀ y ∈ pre, retried tl y = true) (hk : pre.length ≤ retries) :
    Retry.run retries tl (pre ++ .unlisted x :: rest) =
      { calls := pre.length + 1, waits := List.range pre.length, final := .raised x } :=
  run_decided retries tl pre (.unlisted x) rest hpre hk (.inl rfl)

/-- C19: cancellation of the caller during any attempt ends the call as cancelled: not swallowed, not retried. -/
theorem C19_cancellation_is_not_retried_wherever_it_occurs (retries : Nat) (tl : Bool) (pre : List Att)
    (rest : List Att) (hpre : ∀ y ∈ pre, retried tl y = true) (hk : pre.length ≤ retries) :
    Retry.run retries tl (pre ++ .cancelled :: rest) =
      { calls := pre.length + 1, waits := List.range pre.length, final := .cancelled } :=
  run_decided retries tl pre .cancelled rest hpre hk (.inl rfl)

/-- C19: a cut-off attempt when TimeoutError is not retried surfaces as TimeoutError at once. -/
theorem C19_cutoff_not_listed_propagates (retries : Nat) (pre : List Att)
    (rest : List Att) (hpre : ∀ y ∈ pre, retried false y = true) (hk : pre.length ≤ retries) :
    Retry.run retries false (pre ++ .overrun :: rest) =
      { calls := pre.length + 1, waits := List.range pre.length, final := .timeout } :=
  run_decided retries false pre .overrun rest hpre hk (.inl rfl)

/-- C19: after the last attempt the last exception propagates: when `retries` attempts failed and were retried, the
    outcome of attempt `retries + 1` is the outcome of the call, whatever it is (the exception object of that
    attempt, not of an earlier one), after exactly `retries + 1` calls and `retries` waits. -/
theorem C19_after_the_last_attempt_the_last_outcome_propagates (retries : Nat) (tl : Bool) (pre : List Att) (a : Att)
    (rest : List Att) (hpre : ∀ y ∈ pre, retried tl y = true) (hk : pre.length = retries) :
    Retry.run retries tl (pre ++ a :: rest) =
      { calls := retries + 1, waits := List.range retries, final := finalOf a } :=
  hk ▸ run_decided pre.length tl pre a rest hpre (Nat.le_refl _) (.inr rfl)

/-- C19: a cut-off counts as a failed attempt: when TimeoutError is retried, the loop treats `overrun` exactly like a
    listed exception as far as calls and waits go. -/
theorem C19_cutoff_counts_as_a_failed_attempt (retries : Nat) (atts : List Att) (attempt : Nat) (x : Nat) :
    (retryLoop retries true attempt (.overrun :: atts)).calls = (retryLoop retries true attempt (.listed x :: atts)).calls ∧
    (retryLoop retries true attempt (.overrun :: atts)).waits = (retryLoop retries true attempt (.listed x :: atts)).waits := by
  simp only [retryLoop_cons, retried]
  split <;> exact ⟨rfl, rfl⟩

/-- C19: one wait between each pair of consecutive calls, none before the first and none after the last: for any
    outcome list that covers all `retries + 1` possible attempts the number of waits is the number of calls minus one. -/
theorem C19_one_wait_between_consecutive_calls (retries : Nat) (tl : Bool) (atts : List Att)
    (hlen : retries + 1 ≤ atts.length) :
    (Retry.run retries tl atts).waits.length + 1 = (Retry.run retries tl atts).calls := by
  obtain ⟨n, hw, hc⟩ := run_covering retries tl atts hlen
  rw [hw, hc, List.length_range]

/-- non-vacuity: two listed failures and a cut-off, then a success, with retries = 3 -/
example : Retry.run 3 true ([.listed 7, .overrun, .listed 9] ++ .ok 5 :: [.listed 1]) =
    { calls := 4, waits := [0, 1, 2], final := .ret 5 } := by decide

example : Retry.run 2 false ([.listed 7, .listed 8] ++ .listed 9 :: [.ok 1]) =
    { calls := 3, waits := [0, 1], final := .raised 9 } := by decide

end Bubus.Thm
