/-
  Bubus.Proofs.Mutex — C06 (cross-bus mutual exclusion) as an invariant of all reachable states of serial buses:
  the live handler instances form one chain — the lock-holding run loop runs the outermost one, every other one runs
  inside the inline activation of the next, which is suspended in an await — so at most one handler executes at a time.
-/
import Bubus.Proofs.Footprint
import Bubus.Proofs.Lists
namespace Bubus

/-- coarse instance state: finished / suspended in an await / executing (scheduled, running or ended-but-unrecorded) -/
inductive CS | fin | wait | busy
  deriving DecidableEq, Repr

def cs : ISt → CS
  | .finished => .fin
  | .awaiting _ => .wait
  | _ => .busy

/-- the unfinished handler instances of an executor's open activation -/
def runOf (w : World) (p : Proc) : Option (List IId) := (w.act p).map (·.running)

/-- the live instances, innermost first, form a chain of executors rooted at the lock-holding run loop -/
def Chain (w : World) : List IId → Prop
  | [] => True
  | [i] => ∃ b, (w.inst i).exec = .rl b ∧ w.lock = some b ∧ runOf w (.rl b) = some [i]
  | i :: j :: rest =>
    (w.inst i).exec = .inst j ∧ runOf w (.inst j) = some [i] ∧ cs (w.inst j).st = .wait ∧ Chain w (j :: rest)

/- The chain invariant. `stack` lists the live (unfinished) instances, innermost first (`mem`, `nodup`), and they form one
   chain (`chain`). An activation is open only for the run loop that holds the lock (`actRl`) or for an instance suspended
   in an await (`actInst`), never for external code (`actExt`); the unfinished handlers of an activation are live and run
   by its executor (`runLive`); only a suspended instance holds a taken event (`tookWait`); the instance slots from `ni`
   on are untouched (`fresh`); no bus has `parallel_handlers` (`serial`). -/
structure MInv (w : World) : Prop where
  serial : ∀ b, (w.bus b).parallel = false
  mem : ∀ i, i ∈ w.stack ↔ cs (w.inst i).st ≠ .fin
  nodup : w.stack.Nodup
  chain : Chain w w.stack
  actRl : ∀ b, (w.act (.rl b)).isSome → w.lock = some b
  actInst : ∀ j, (w.act (.inst j)).isSome → cs (w.inst j).st = .wait
  actExt : w.act .ext = none
  runLive : ∀ p l, runOf w p = some l → ∀ i ∈ l, i ∈ w.stack ∧ (w.inst i).exec = p
  tookWait : ∀ i, (w.inst i).took.isSome → cs (w.inst i).st = .wait
  fresh : ∀ j, w.ni ≤ j → cs (w.inst j).st = .fin ∧ w.act (.inst j) = none ∧ (w.inst j).took = none

variable {w w' : World}

theorem cs_eq_fin {st : ISt} : cs st = .fin ↔ st = .finished := by cases st <;> simp [cs]

theorem cs_eq_wait {st : ISt} : cs st = .wait ↔ ∃ c, st = .awaiting c := by cases st <;> simp [cs]

theorem runOf_isSome (w : World) (p : Proc) : (runOf w p).isSome = (w.act p).isSome := Option.isSome_map

theorem runOf_eq_none (w : World) (p : Proc) : runOf w p = none ↔ w.act p = none := Option.map_eq_none_iff

/-- the lists of unfinished handlers follow the activations (the closed forms of `Effects.lean` have the shape of `h`) -/
theorem runOf_ite {q : Proc} {c : Prop} [Decidable c] {x : Option Act} (h : w'.act q = if c then x else w.act q) :
    runOf w' q = if c then x.map (·.running) else runOf w q := by
  unfold runOf; rw [h]; exact apply_ite _ _ _ _

theorem isSome_of_runOf_map {p : Proc} {g : List IId → List IId}
    (hrun : ∀ q, runOf w' q = if q = p then (runOf w q).map g else runOf w q) (q : Proc) :
    (w'.act q).isSome = (w.act q).isSome := by
  rw [← runOf_isSome, ← runOf_isSome, hrun]
  split
  · rw [Option.isSome_map]
  · rfl

/-- where an activation is rewritten by `f`, its list of unfinished handlers is rewritten by `g` -/
theorem runOf_of_act_map {q : Proc} {c : Prop} [Decidable c] {f : Act → Act} (g : List IId → List IId)
    (h : w'.act q = if c then (w.act q).map f else w.act q) (hf : ∀ A, (f A).running = g A.running) :
    runOf w' q = if c then (runOf w q).map g else runOf w q := by
  rw [runOf_ite h, runOf, Option.map_map, Option.map_map]
  exact congrArg (fun k => if c then (w.act q).map k else _) (funext hf)

theorem runOf_of_act_keep {q : Proc} {c : Prop} [Decidable c] {f : Act → Act}
    (h : w'.act q = if c then (w.act q).map f else w.act q) (hf : ∀ A, (f A).running = A.running) : runOf w' q = runOf w q := by
  rw [runOf_of_act_map id h hf]
  split
  · cases runOf w q <;> rfl
  · rfl

/-- The chain over `l` reads the executors of the members of `l` and, of each executor that runs a member of `l`, its list of
    unfinished handlers and the lock (a run loop) or its coarse state (an instance). -/
theorem Chain.congr {l : List IId} (hc : Chain w l) (he : ∀ x ∈ l, (w'.inst x).exec = (w.inst x).exec)
    (hrun : ∀ q, ∀ x ∈ l, runOf w q = some [x] → runOf w' q = some [x])
    (hlock : ∀ b x, runOf w (.rl b) = some [x] → w.lock = some b → w'.lock = some b)
    (hcs : ∀ j x, runOf w (.inst j) = some [x] → cs (w'.inst j).st = cs (w.inst j).st) : Chain w' l := by
  fun_induction Chain w l with
  | case1 => trivial
  | case2 i =>
    obtain ⟨b, h1, h2, h3⟩ := hc
    have hi : i ∈ [i] := List.mem_cons_self
    exact ⟨b, by rw [he i hi]; exact h1, hlock b i h3 h2, hrun _ i hi h3⟩
  | case3 i j rest ih =>
    obtain ⟨h1, h2, h3, h4⟩ := hc
    have hi : i ∈ i :: j :: rest := List.mem_cons_self
    exact ⟨by rw [he i hi]; exact h1, hrun _ i hi h2, by rw [hcs j i h2]; exact h3,
      ih h4 (fun x hx => he x (List.mem_cons_of_mem _ hx)) fun q x hx => hrun q x (List.mem_cons_of_mem _ hx)⟩

theorem Chain.tail {i : IId} {l : List IId} (hc : Chain w (i :: l)) : Chain w l := by
  cases l with
  | nil => trivial
  | cons j rest => exact hc.2.2.2

/-- the executor of the outermost live instance is a run loop that holds the lock -/
theorem chain_bottom (w : World) (l : List IId) (hne : l ≠ []) (hc : Chain w l) :
    ∃ b i, w.lock = some b ∧ runOf w (.rl b) = some [i] := by
  fun_induction Chain w l with
  | case1 => exact absurd rfl hne
  | case2 i => obtain ⟨b, _, h⟩ := hc; exact ⟨b, i, h⟩
  | case3 i j rest ih => exact ih nofun hc.2.2.2

theorem Chain.below_top {l : List IId} (hc : Chain w l) : ∀ j ∈ l.tail, ∃ i, runOf w (.inst j) = some [i] := by
  fun_induction Chain w l with
  | case1 | case2 => nofun
  | case3 i j rest ih =>
    intro x hx
    rcases List.mem_cons.mp hx with rfl | hx
    · exact ⟨i, hc.2.1⟩
    · exact ih hc.2.2.2 x hx

/-- what the invariant says of the single instance `j`: its clauses `mem`, `actInst`, `tookWait` and `fresh` at `j` -/
structure InstOk (w : World) (j : IId) : Prop where
  mem : j ∈ w.stack ↔ cs (w.inst j).st ≠ .fin
  act : (w.act (.inst j)).isSome → cs (w.inst j).st = .wait
  took : (w.inst j).took.isSome → cs (w.inst j).st = .wait
  fresh : w.ni ≤ j → cs (w.inst j).st = .fin ∧ w.act (.inst j) = none ∧ (w.inst j).took = none

theorem MInv.instOk (h : MInv w) (j : IId) : InstOk w j := ⟨h.mem j, h.actInst j, h.tookWait j, h.fresh j⟩

theorem MInv.of_instOk (serial : ∀ b, (w.bus b).parallel = false) (inst : ∀ j, InstOk w j) (nodup : w.stack.Nodup)
    (chain : Chain w w.stack) (actRl : ∀ b, (w.act (.rl b)).isSome → w.lock = some b) (actExt : w.act .ext = none)
    (runLive : ∀ p l, runOf w p = some l → ∀ i ∈ l, i ∈ w.stack ∧ (w.inst i).exec = p) : MInv w :=
  ⟨serial, fun j => (inst j).mem, nodup, chain, actRl, fun j => (inst j).act, actExt, runLive, fun j => (inst j).took,
    fun j => (inst j).fresh⟩

/-- An instance stays as the invariant wants it when a change keeps what these clauses read of it - whether it is on the
    stack, its coarse state, the event it holds -, opens no activation for it and does not make its slot a fresh one. So a
    move argues about the one instance it changes and has every other one from here. -/
theorem InstOk.congr {j : IId} (h : InstOk w j) (hmem : j ∈ w'.stack ↔ j ∈ w.stack)
    (hst : cs (w'.inst j).st = cs (w.inst j).st) (hact : (w'.act (.inst j)).isSome → (w.act (.inst j)).isSome)
    (htook : (w'.inst j).took = (w.inst j).took) (hni : w'.ni ≤ j → w.ni ≤ j) : InstOk w' j := by
  refine ⟨by rw [hmem, hst]; exact h.mem, fun hs => ?_, fun hs => ?_, fun hj => ?_⟩
  · rw [hst]; exact h.act (hact hs)
  · rw [hst]; exact h.took (htook ▸ hs)
  · obtain ⟨f1, f2, f3⟩ := h.fresh (hni hj)
    rw [hst, htook]; exact ⟨f1, eq_none_of_isSome_imp hact f2, f3⟩

/-- what the invariant reads of a world is in `w'` as in `w` -/
structure SameView (w w' : World) : Prop where
  par : ∀ b, (w'.bus b).parallel = (w.bus b).parallel
  st : ∀ i, cs (w'.inst i).st = cs (w.inst i).st
  exec : ∀ i, (w'.inst i).exec = (w.inst i).exec
  run : ∀ p, runOf w' p = runOf w p
  lock : w'.lock = w.lock
  stack : w'.stack = w.stack
  took : ∀ i, (w'.inst i).took = (w.inst i).took
  ni : w'.ni = w.ni

theorem minv_of_sameView (hv : SameView w w') (h : MInv w) : MInv w' := by
  have hact : ∀ p, (w'.act p).isSome = (w.act p).isSome := fun p => by rw [← runOf_isSome, hv.run, runOf_isSome]
  refine .of_instOk (fun b => (hv.par b).trans (h.serial b))
    (fun j => (h.instOk j).congr (by rw [hv.stack]) (hv.st j) (fun hs => hact _ ▸ hs) (hv.took j) fun hj => hv.ni ▸ hj)
    (by rw [hv.stack]; exact h.nodup) ?chain (fun b hb => by rw [hv.lock]; exact h.actRl b (hact _ ▸ hb))
    (eq_none_of_isSome_eq (hact _) h.actExt)
    fun p l hl i hi => by rw [hv.stack, hv.exec]; rw [hv.run] at hl; exact h.runLive p l hl i hi
  rw [hv.stack]
  exact h.chain.congr (fun x _ => hv.exec x) (fun q x _ hx => by rw [hv.run]; exact hx)
    (fun b _ _ hl => by rw [hv.lock]; exact hl) fun j _ _ => hv.st j

/-- the fields of the state that the invariant reads -/
def Fld.inView : Fld → Bool
  | .bus .parallel | .inst .st | .inst .exec | .inst .took | .act | .lock | .stack | .ni => true
  | _ => false

/-- a change that writes nothing the invariant reads -/
theorem Agree.sameView (h : Agree Fld.inView w w') : SameView w w' :=
  ⟨h (.bus .parallel) rfl, fun i => by rw [h (.inst .st) rfl i], h (.inst .exec) rfl,
    fun p => by unfold runOf; rw [h .act rfl], h .lock rfl, h .stack rfl, h (.inst .took) rfl, h .ni rfl⟩

/-- a change that, of what the invariant reads, writes at most events in hand and activations, and keeps what is read of them -/
theorem Agree.sameView_of (h : Agree (· matches .bus .parallel | .inst .st | .inst .exec | .lock | .stack | .ni) w w')
    (htook : ∀ i, (w'.inst i).took = (w.inst i).took) (hrun : ∀ p, runOf w' p = runOf w p) : SameView w w' :=
  ⟨h (.bus .parallel) rfl, fun i => by rw [h (.inst .st) rfl i], h (.inst .exec) rfl, hrun, h .lock rfl, h .stack rfl, htook,
    h .ni rfl⟩

theorem MInv.top_of_idle (hI : MInv w) (j : IId) (hlive : cs (w.inst j).st ≠ .fin)
    (hidle : ∀ x, runOf w (.inst j) ≠ some [x]) : ∃ rest, w.stack = j :: rest := by
  have hj : j ∈ w.stack := (hI.mem j).mpr hlive
  cases hst : w.stack with
  | nil => rw [hst] at hj; cases hj
  | cons a t =>
    rw [hst] at hj
    rcases List.mem_cons.mp hj with rfl | hj
    · exact ⟨t, rfl⟩
    · obtain ⟨x, hx⟩ := hI.chain.below_top j (by rw [hst]; exact hj)
      exact absurd hx (hidle x)

/-- an executor whose open activation has no unfinished handler is the innermost one -/
theorem innermost (w : World) (hI : MInv w) (p : Proc) (hp : runOf w p = some []) :
    match p with
    | .rl _ => w.stack = []
    | .inst j => ∃ rest, w.stack = j :: rest
    | .ext => False := by
  have hsome : (w.act p).isSome := by rw [← runOf_isSome, hp]; rfl
  have hidle : ∀ x, runOf w p ≠ some [x] := fun x h => by rw [hp] at h; cases h
  cases p with
  | rl b =>
    -- otherwise the run loop at the bottom of the chain, which holds the lock as `b` does, would run a handler
    refine Decidable.byContradiction fun hst => ?_
    obtain ⟨b', i, h2, h3⟩ := chain_bottom w w.stack hst hI.chain
    rw [hI.actRl b hsome] at h2
    injection h2 with h2
    exact hidle i (h2 ▸ h3)
  | inst j => exact hI.top_of_idle j (by rw [hI.actInst j hsome]; decide) hidle
  | ext => rw [hI.actExt] at hsome; cases hsome

theorem MInv.idle_of_busy (hI : MInv w) {i : IId} (h : cs (w.inst i).st = .busy) :
    w.act (.inst i) = none ∧ (w.inst i).took = none := by
  refine ⟨Option.not_isSome_iff_eq_none.mp fun hs => ?_, Option.not_isSome_iff_eq_none.mp fun hs => ?_⟩
  · have := hI.actInst i hs; rw [h] at this; cases this
  · have := hI.tookWait i hs; rw [h] at this; cases this

/-- only the innermost live instance can be executing; every other one is suspended in an await -/
theorem MInv.top_of_busy (hI : MInv w) {i : IId} (h : cs (w.inst i).st = .busy) : ∃ rest, w.stack = i :: rest :=
  hI.top_of_idle i (by rw [h]; decide) fun x hx => by rw [runOf, (hI.idle_of_busy h).1] at hx; cases hx

theorem only_top_busy (w : World) (hI : MInv w) (i : IId) (hb : cs (w.inst i).st = .busy) : w.stack.head? = some i := by
  obtain ⟨rest, h⟩ := hI.top_of_busy hb
  rw [h]; rfl

end Bubus
