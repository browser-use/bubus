/-
  Bubus.Proofs.Forward — an existing event only moves forward.

  `EvLe E E'` ("`E'` is a later state of the event `E`") collects what no label ever takes back from an event: its type, a
  parent link once set, the path (which only grows at its end), the completion signal, and every handler result it has
  (a result stays and its status only advances pending → started → completed/error). Each stage of `apply0` is monotone
  for this order, so every accepted label is (`apply_evLe`) and so is every run (`run_evLe`); C07 (path, type), C08
  (signal), C09 (parent) along runs and the "never un-started / never un-finished" facts behind C01 and C11 are its fields.
-/
import Bubus.Proofs.Dispatch
namespace Bubus

theorem getRes_map (rs : List Res) (b : BId) (k : HId) (f : Res → Res)
    (hf : ∀ r, (f r).hid = r.hid ∧ (f r).bus = r.bus) :
    (rs.map f).find? (fun r => r.hid == k && r.bus == b) = (rs.find? (fun r => r.hid == k && r.bus == b)).map f := by
  induction rs with
  | nil => rfl
  | cons a t ih =>
    simp only [List.map_cons, List.find?_cons]
    rw [(hf a).1, (hf a).2]
    split
    · rfl
    · exact ih

theorem getRes_updRes {E : Ev} {b : BId} {k : HId} {r : Res} (f : Res → Res)
    (hf : ∀ r, (f r).hid = r.hid ∧ (f r).bus = r.bus) (hr : E.getRes? b k = some r) :
    (E.updRes b k f).getRes? b k = some (f r) := by
  have hfound := List.find?_some hr
  simp only [Ev.getRes?, Ev.updRes] at hr ⊢
  rw [getRes_map _ _ _ _ (by intro y; split <;> simp [hf y]), hr]
  simp only [Option.map_some, hfound, if_true]

def Status.rank : Status → Nat
  | .pending => 0
  | .started => 1
  | _ => 2

theorem Status.rank_le_two (s : Status) : s.rank ≤ 2 := by cases s <;> decide

theorem Fin.status_rank (r : Fin) : r.status.rank = 2 := by cases r <;> rfl

theorem Res.terminal_iff_rank (r : Res) : r.terminal = true ↔ 2 ≤ r.status.rank := by
  unfold Res.terminal; cases r.status <;> simp [Status.rank]

structure EvLe (E E' : Ev) : Prop where
  etype : E'.etype = E.etype
  parent : ∀ y, E.parent = some y → E'.parent = some y
  path : E.path <+: E'.path
  signal : E.signal = true → E'.signal = true
  results : ∀ b k r, E.getRes? b k = some r → ∃ r', E'.getRes? b k = some r' ∧ r.status.rank ≤ r'.status.rank

namespace EvLe

theorem refl (E : Ev) : EvLe E E := ⟨rfl, fun _ h => h, List.prefix_refl _, id, fun _ _ r h => ⟨r, h, Nat.le_refl _⟩⟩

theorem trans {E E' E'' : Ev} (h : EvLe E E') (h' : EvLe E' E'') : EvLe E E'' :=
  ⟨h'.etype.trans h.etype, fun y hy => h'.parent y (h.parent y hy), h.path.trans h'.path, fun hs => h'.signal (h.signal hs),
   fun b k r hr => by
     obtain ⟨r', hr', hle⟩ := h.results b k r hr
     obtain ⟨r'', hr'', hle'⟩ := h'.results b k r' hr'
     exact ⟨r'', hr'', Nat.le_trans hle hle'⟩⟩

/-- the results stay as they are -/
theorem of_results {E E' : Ev} (he : E'.etype = E.etype) (hp : ∀ y, E.parent = some y → E'.parent = some y)
    (hpath : E.path <+: E'.path) (hs : E.signal = true → E'.signal = true) (hr : E'.results = E.results) : EvLe E E' :=
  ⟨he, hp, hpath, hs, fun b k r h => ⟨r, by simpa [Ev.getRes?, hr] using h, Nat.le_refl _⟩⟩

/-- the results are mapped by a function that keeps identities and does not lower the status of any result in force -/
theorem of_map {E : Ev} (f : Res → Res) (hid : ∀ r, (f r).hid = r.hid ∧ (f r).bus = r.bus)
    (hrank : ∀ b k r, E.getRes? b k = some r → r.status.rank ≤ (f r).status.rank) :
    EvLe E { E with results := E.results.map f } :=
  ⟨rfl, fun _ h => h, List.prefix_refl _, id, fun b k r hr => ⟨f r, by
    simp only [Ev.getRes?] at hr ⊢
    rw [getRes_map _ _ _ _ hid, hr]; rfl, hrank b k r hr⟩⟩

theorem of_updRes {E : Ev} (b k : Nat) (f : Res → Res) (hid : ∀ r, (f r).hid = r.hid ∧ (f r).bus = r.bus)
    (hrank : ∀ r, E.getRes? b k = some r → r.status.rank ≤ (f r).status.rank) : EvLe E (E.updRes b k f) := by
  refine of_map _ (fun r => by split <;> simp [hid r]) fun b' k' r hr => ?_
  split
  · rename_i hc
    have hkey : r.hid = k' ∧ r.bus = b' := by simpa using List.find?_some hr
    simp only [Bool.and_eq_true, beq_iff_eq] at hc
    exact hrank r (by rw [← hc.1, ← hc.2, hkey.1, hkey.2]; exact hr)
  · exact Nat.le_refl _

theorem of_append {E : Ev} (extra : List Res) : EvLe E { E with results := E.results ++ extra } :=
  ⟨rfl, fun _ h => h, List.prefix_refl _, id, fun b k r hr => ⟨r, by
    simp only [Ev.getRes?] at hr ⊢
    rw [List.find?_append, hr]; rfl, Nat.le_refl _⟩⟩

end EvLe

theorem evLe_setEv (w : World) (e : EId) (E' : Ev) (x : EId) (h : EvLe (w.ev e) E') : EvLe (w.ev x) ((w.setEv e E').ev x) := by
  rw [setEv_ev]
  split
  · rename_i hx; subst hx; exact h
  · exact .refl _

theorem markComplete_evLe (w : World) (e x : EId) : EvLe (w.ev x) ((markComplete w e).ev x) := by
  rw [markComplete_eq]
  split
  · exact evLe_setEv w e _ x (.of_results rfl (fun _ => id) (List.prefix_refl _) (fun _ => rfl) rfl)
  · exact .refl _

theorem parentWalk_evLe (w : World) (fuel : Nat) (e : EId) (seen : List EId) (x : EId) :
    EvLe (w.ev x) ((parentWalk w fuel e seen).ev x) :=
  parentWalk_induction (P := fun w' => EvLe (w.ev x) (w'.ev x)) (fun w' p h => h.trans (markComplete_evLe w' p x))
    w fuel e seen (.refl _)

theorem markComplete_signal_mono (w : World) (e x : EId) (h : (w.ev x).signal = true) :
    ((markComplete w e).ev x).signal = true :=
  (markComplete_evLe w e x).signal h

theorem parentWalk_signal_mono (w : World) (fuel : Nat) (e : EId) (seen : List EId) (x : EId)
    (h : (w.ev x).signal = true) : ((parentWalk w fuel e seen).ev x).signal = true :=
  (parentWalk_evLe w fuel e seen x).signal h

theorem cancelPendingChildren_evLe (w : World) (fuel : Nat) (e x : EId) :
    EvLe (w.ev x) ((cancelPendingChildren w fuel e).ev x) := by
  refine cancelPendingChildren_induction (P := fun w' => EvLe (w.ev x) (w'.ev x)) (fun w' c h => h.trans ?_) w fuel e (.refl _)
  refine evLe_setEv w' c _ x (.of_map _ (fun r => by split <;> simp) fun _ _ r _ => ?_)
  split
  · rename_i hp
    rw [show r.status = .pending by simpa using hp]
    exact Nat.zero_le _
  · exact Nat.le_refl _

theorem dParent_evLe (w : World) (ctx : Option (EId × BId × HId)) (e x : EId) : EvLe (w.ev x) ((dParent w ctx e).ev x) := by
  unfold dParent
  split
  · split
    · -- the parent is set only where there is none
      rename_i h
      exact evLe_setEv w e _ x (.of_results rfl (fun y hy => by simp [hy] at h) (List.prefix_refl _) id rfl)
    · exact .refl _
  · exact .refl _

theorem dPath_evLe (w : World) (b : BId) (e x : EId) : EvLe (w.ev x) ((dPath w b e).ev x) := by
  unfold dPath
  split
  · exact .refl _
  · exact evLe_setEv w e _ x (.of_results rfl (fun _ => id) (List.prefix_append _ _) id rfl)

theorem dChild_evLe (w : World) (ctx : Option (EId × BId × HId)) (e x : EId) : EvLe (w.ev x) ((dChild w ctx e).ev x) := by
  unfold dChild
  repeat' split
  all_goals first
    | exact .refl _
    | exact evLe_setEv w _ _ x (.of_updRes _ _ _ (fun _ => ⟨rfl, rfl⟩) fun _ _ => Nat.le_refl _)

theorem applyDispatch_evLe (w : World) (p : Proc) (b : BId) (e : EId) (res : DRes) (x : EId) :
    EvLe (w.ev x) ((applyDispatch w p b e res).ev x) := by
  have h : EvLe (w.ev x) ((dFwd (dPath (dParent w (ctxOf w p) e) b e) p).ev x) := by
    rw [dFwd_ev]; exact (dParent_evLe w _ e x).trans (dPath_evLe _ b e x)
  unfold applyDispatch
  cases res <;> dsimp only
  case ok => rw [cleanup_ev]; refine h.trans ?_; rw [← dEnqueue_ev _ b e]; exact dChild_evLe _ _ e x
  all_goals exact h

theorem peOpen_evLe (w : World) (p : Proc) (b : BId) (e x : EId) : EvLe (w.ev x) ((peOpen w p b e).ev x) := by
  unfold peOpen
  dsimp only
  have h : EvLe (w.ev x) (((w.modEv e fun E => { E with results := E.results ++ (applicable w b e).map fun k => { hid := k, bus := b } }).setAct p
      (some { bus := b, ev := e, todo := applicable w b e, running := [], sel := applicable w b e })).ev x) :=
    evLe_setEv w e _ x (.of_append _)
  split
  · exact h.trans (markComplete_evLe _ e x)
  · exact h

theorem peClose_evLe (w : World) (p : Proc) (b : BId) (e x : EId) : EvLe (w.ev x) ((peClose w p b e).ev x) := by
  unfold peClose
  simp only [modBus_eq, setBus_ev, setAct_ev, cleanup_ev]
  exact (markComplete_evLe w e x).trans (parentWalk_evLe _ _ e [] x)

/-- marking a result started, given that it is pending (the guard of `hSched`) -/
theorem applySched_evLe (w : World) (p : Proc) (i : IId) (b : BId) (e : EId) (k : HId) (x : EId)
    (hp : ∀ r, (w.ev e).getRes? b k = some r → r.status = .pending) : EvLe (w.ev x) ((applySched w p i b e k).ev x) := by
  have h : EvLe (w.ev x) ((w.modEv e fun E => E.updRes b k fun r => { r with status := .started }).ev x) :=
    evLe_setEv w e _ x (.of_updRes _ _ _ (fun _ => ⟨rfl, rfl⟩) fun r hr => by simp [hp r hr, Status.rank])
  rw [applySched_ev]
  exact h

theorem applyFinish_evLe (w : World) (i : IId) (r : Fin) (x : EId) : EvLe (w.ev x) ((applyFinish w i r).ev x) := by
  have h : EvLe (w.ev x) ((finishCore w i r).ev x) := by
    rw [finishCore_ev]
    exact evLe_setEv w _ _ x (.of_updRes _ _ _ (fun _ => ⟨rfl, rfl⟩) fun y _ => by
      rw [show Status.rank _ = 2 from r.status_rank]; exact y.status.rank_le_two)
  rw [applyFinish_eq]
  split
  · exact h.trans (cancelPendingChildren_evLe _ _ _ x)
  · exact h

theorem apply0_evLe (w : World) (l : Label) (x : EId) (hx : x < w.ne) (hg : guard w l = true) :
    EvLe (w.ev x) ((apply0 w l).ev x) := by
  by_cases hw : touches l Fld.isEv = false
  · rw [((apply0_frame w l).agree hw).ev_eq]; exact .refl _
  · cases l <;> first | exact absurd rfl hw | skip
    case newEvent e ty par to =>
      obtain ⟨he, _⟩ := guard_all hg
      replace he : x ≠ e := by rw [eq_of_beq he]; exact Nat.ne_of_lt hx
      (dsimp only [apply0]; simp only [setNe_ev, setEv_ev, he])
      exact .refl _
    case dispatch p b e res => exact applyDispatch_evLe w p b e res x
    case peBegin p b e =>
      have h := peOpen_evLe (peEnter w p b) p b e x
      rwa [show (peEnter w p b).ev = w.ev by cases p <;> rfl] at h
    case hSched p i b e k =>
      obtain ⟨r0, hr0, hp⟩ := hSched_pending hg
      exact applySched_evLe w p i b e k x fun r hr => Option.some.inj (hr0.symm.trans hr) ▸ hp
    case hFinish i r => exact applyFinish_evLe w i r x
    case peEnd p b e =>
      cases p <;> dsimp only [apply0]
      · rw [(releaseRl_frame _ _).ev_eq rfl]; exact peClose_evLe w _ b e x
      all_goals exact peClose_evLe w _ b e x

theorem apply_evLe (w : World) (l : Label) (x : EId) (hx : x < w.ne) (hg : guard w l = true) :
    EvLe (w.ev x) ((apply w l).ev x) := by
  rw [apply, wake_ev]; exact apply0_evLe w l x hx hg

theorem run_evLe {w w' : World} {ls : List Label} {x : EId} (hx : x < w.ne) (hr : run w ls = some w') :
    EvLe (w.ev x) (w'.ev x) ∧ x < w'.ne :=
  run_invariant (P := fun w' => EvLe (w.ev x) (w'.ev x) ∧ x < w'.ne)
    (fun w1 l ⟨h, hx1⟩ hg => ⟨h.trans (apply_evLe w1 l x hx1 hg), by
      rw [apply, wake_ne]; exact Nat.lt_of_lt_of_le hx1 (apply0_ne_mono w1 l)⟩)
    ⟨.refl _, hx⟩ hr

end Bubus
