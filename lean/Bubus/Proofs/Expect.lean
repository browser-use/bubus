/-
  Bubus.Proofs.Expect — C18: the temporary subscription of `expect()` is never left behind, as an invariant of all
  reachable states: every handler of kind `expect x` that is registered on a bus belongs to the call `x`, which is still
  pending on exactly that bus with exactly that key and handler id. When the call ends (match, timeout, cancellation) its
  handler goes with it; nothing else ever registers one. The invariant reads the registries and the table of callers. A
  label that writes either is made of four moves: a bus is rewritten and gains no registration (`EInv.setBus`), a caller
  changes state and keeps its subscription (`EInv.setWaiter`; `wake` is a fold of these), a registration is appended
  (`EInv.append`), a call ends (`EInv.erase`).
-/
import Bubus.Proofs.Footprint
import Bubus.Proofs.Lists
namespace Bubus

/-- the subscription a blocked caller holds: bus, key and id of the temporary handler of its pending `expect()` -/
def WSt.sub : WSt → Option (BId × Key × HId)
  | .expecting b key k _ _ _ => some (b, key, k)
  | _ => none

def matchesReg (key : Key) (k : HId) (r : Reg) : Bool := r.key == key && r.hid == k

/-- every registered `expect` handler belongs to its still pending call; it is the only registration with its (key, id) -/
structure EInv (w : World) : Prop where
  owner : ∀ b r x pred, r ∈ (w.bus b).handlers → r.kind = .expect x pred → (w.waiter x).sub = some (b, r.key, r.hid)
  uniq : ∀ b r, r ∈ (w.bus b).handlers → r.kind.isExpect = true →
    (w.bus b).handlers.countP (matchesReg r.key r.hid) ≤ 1

def EInv.reads : Fld → Bool := (· matches .bus .handlers | .waiter)

/-- registries may shrink, as long as the callers whose registrations remain keep their subscriptions -/
theorem EInv.shrink {w w' : World} (hI : EInv w) (hh : ∀ b, (w'.bus b).handlers.Sublist (w.bus b).handlers)
    (hs : ∀ b r x pred, r ∈ (w'.bus b).handlers → r.kind = .expect x pred → (w'.waiter x).sub = (w.waiter x).sub) :
    EInv w' :=
  ⟨fun b r x pred hr hk => (hs b r x pred hr hk).trans (hI.owner b r x pred ((hh b).subset hr) hk),
   fun b r hr hk => Nat.le_trans (hh b).countP_le (hI.uniq b r ((hh b).subset hr) hk)⟩

theorem EInv.agree {w w' : World} (hI : EInv w) (h : Agree EInv.reads w w') : EInv w' :=
  hI.shrink (fun b => by rw [h (.bus .handlers) rfl b]; exact .refl _) fun _ _ x _ _ _ => by rw [h .waiter rfl]

theorem EInv.setBus {w : World} {b : BId} {B : Bus} (hI : EInv w) (h : B.handlers.Sublist (w.bus b).handlers) :
    EInv (w.setBus b B) :=
  hI.shrink (fun b' => by
    rw [setBus_bus, apply_ite Bus.handlers]
    split
    · rename_i hb; rw [hb]; exact h
    · exact .refl _) fun _ _ _ _ _ _ => rfl

/-- a caller moves on within its call, or between states in which it has no subscription -/
theorem EInv.setWaiter {w : World} {x : Nat} {s t : WSt} (hI : EInv w) (hw : w.waiter x = t) (hs : s.sub = t.sub) :
    EInv (w.setWaiter x s) :=
  hI.shrink (fun _ => .refl _) fun _ _ x' _ _ _ => by
    show (if x' = x then s else w.waiter x').sub = _
    split
    · rename_i hx; rw [hx, hw]; exact hs
    · rfl

/-- a registration `r0` may be appended on bus `b0` if its handler id differs from those of the `expect` registrations
    there (from all of them if it is itself one), the subscribed callers stay subscribed, and if it is an `expect`
    registration its caller now subscribes to it -/
theorem EInv.append {w w' : World} {b0 : BId} {r0 : Reg} (hI : EInv w)
    (hh : ∀ b, (w'.bus b).handlers = if b = b0 then (w.bus b0).handlers ++ [r0] else (w.bus b).handlers)
    (hs : ∀ x t, (w.waiter x).sub = some t → (w'.waiter x).sub = some t)
    (hfresh : ∀ r ∈ (w.bus b0).handlers, r.kind.isExpect = true ∨ r0.kind.isExpect = true → r.hid ≠ r0.hid)
    (hown : ∀ x pred, r0.kind = .expect x pred → (w'.waiter x).sub = some (b0, r0.key, r0.hid)) : EInv w' := by
  -- a registration of `w'` is one of `w`, or the new one
  have hmem {b r} (hr : r ∈ (w'.bus b).handlers) : r ∈ (w.bus b).handlers ∨ b = b0 ∧ r = r0 := by
    rw [hh] at hr; split at hr
    · rename_i hb; rw [hb]; exact (List.mem_append.mp hr).imp id fun h => ⟨rfl, List.mem_singleton.mp h⟩
    · exact .inl hr
  refine ⟨fun b r x pred hr hk => ?_, fun b r hr hk => ?_⟩
  · rcases hmem hr with hr | ⟨rfl, rfl⟩
    · exact hs x _ (hI.owner b r x pred hr hk)
    · exact hown x pred hk
  · rw [hh]; split
    · rename_i hb; subst hb
      rw [List.countP_append, List.countP_singleton]
      rcases hmem hr with hr | ⟨_, rfl⟩
      · -- the new registration has another id
        rw [if_neg (by simp [matchesReg, (hfresh r hr (.inl hk)).symm])]
        exact hI.uniq b r hr hk
      · -- no old registration has the id of the new one
        rw [List.countP_eq_zero.mpr fun a ha => by simp [matchesReg, hfresh a ha (.inr hk)]]
        split <;> decide
    · exact hI.uniq b r ((hmem hr).resolve_right fun h => ‹¬_› h.1) hk

/-- the call `x0` ends: the registration it is subscribed to is erased, and it is subscribed to nothing any more. Nothing
    of the call is left behind, because by `uniq` the erased registration was the only one with its key and id -/
theorem EInv.erase {w w' : World} {x0 : Nat} {b0 : BId} {key : Key} {k : HId} (hI : EInv w)
    (hx : (w.waiter x0).sub = some (b0, key, k))
    (hh : ∀ b, (w'.bus b).handlers =
      if b = b0 then (w.bus b0).handlers.eraseP (matchesReg key k) else (w.bus b).handlers)
    (hs : ∀ x, (w'.waiter x).sub = if x = x0 then none else (w.waiter x).sub) : EInv w' := by
  have hsub : ∀ b, (w'.bus b).handlers.Sublist (w.bus b).handlers := fun b => by
    rw [hh]; split
    · rename_i hb; rw [hb]; exact List.eraseP_sublist
    · exact .refl _
  refine hI.shrink hsub fun b r x pred hr hk => ?_
  rw [hs, if_neg]
  rintro rfl
  have hr' := (hsub b).subset hr
  have ho := hI.owner b r x pred hr' hk
  rw [hx] at ho; cases ho
  rw [hh, if_pos rfl] at hr
  have h2 := (List.countP_pos_iff (p := matchesReg r.key r.hid)).mpr ⟨r, hr, by simp [matchesReg]⟩
  rw [countP_eraseP] at h2
  have h1 := hI.uniq b0 r hr' (by rw [hk]; rfl)
  omega

theorem einv_apply0 (w : World) (l : Label) (hg : guard w l = true) (hI : EInv w) : EInv (apply0 w l) := by
  have keep := fun h => hI.agree ((apply0_frame w l).agree (P := EInv.reads) h)
  -- however a call ends, the effect is the same
  have over (x0 : Nat) : EInv (apply0 w (.expectCancel x0)) := by
    dsimp only [apply0]
    split
    next hw => exact hI.erase (congrArg WSt.sub hw) (fun _ => apply_ite Bus.handlers _ _ _) fun _ => apply_ite WSt.sub _ _ _
    next => exact hI
  cases l
  case on b0 key0 k0 kind0 =>
    -- the guard: the new handler is no `expect` handler and does not take the id of one
    obtain ⟨_, hkind, hall, _⟩ := guard_all hg
    refine hI.append (fun _ => apply_ite Bus.handlers _ _ _) (fun _ _ h => h) (fun r hr h => ?_) (fun x pred hk => ?_)
    · rcases h with h | h
      · simpa [h] using List.all_eq_true.mp hall r hr
      · rw [show kind0.isExpect = true from h] at hkind; cases hkind
    · rw [show kind0 = _ from hk] at hkind; cases hkind
  case expectBegin x0 b0 key0 k0 pred0 to =>
    -- the guard: the caller is idle and the id of its handler is new on the bus
    obtain ⟨_, hidle, hall, _⟩ := guard_all hg
    have hs (x : Nat) : ((apply0 w (.expectBegin x0 b0 key0 k0 pred0 to)).waiter x).sub =
        if x = x0 then some (b0, key0, k0) else (w.waiter x).sub := apply_ite WSt.sub _ _ _
    refine hI.append (fun _ => apply_ite Bus.handlers _ _ _) (fun x t h => ?_)
      (fun r hr _ => by simpa using List.all_eq_true.mp hall r hr) (fun x pred hk => ?_)
    · -- a subscribed caller is not the new one, which was idle
      rw [hs, if_neg, h]
      rintro rfl
      rw [eq_of_beq hidle] at h; cases h
    · cases hk; rw [hs]; exact if_pos rfl
  case expectEnd x0 _ | expectCancel x0 => exact over x0
  case newBus b' par maxh wal =>
    have h : EInv (w.setBus b' { parallel := par, maxh := maxh, wal := wal }) := hI.setBus (List.nil_sublist _)
    exact ⟨h.owner, h.uniq⟩
  case off => exact hI.setBus List.eraseP_sublist
  -- the guard of a label that begins a call, or leaves `wait_until_idle()`, rules out that the caller is inside `expect()`
  case wiBegin x' _ =>
    obtain ⟨_, hidle, _⟩ := guard_all hg
    exact hI.setWaiter (eq_of_beq hidle) rfl
  case stopBegin x' _ _ =>
    obtain ⟨_, hidle, _⟩ := guard_all hg
    exact .setWaiter (hI.setBus (.refl _)) (eq_of_beq hidle) rfl
  case wiEnd x' | wiCancel x' =>
    obtain ⟨hwi, _⟩ := guard_all hg
    refine hI.setWaiter rfl ?_
    generalize w.waiter x' = s at hwi ⊢
    cases s <;> first | rfl | cases hwi
  case hEnd i out =>
    have hI' : EInv (w.modInst i fun I => { I with st := .ended, out := out }) := ⟨hI.owner, hI.uniq⟩
    dsimp only [apply0]
    split
    · split
      · split
        next hw => exact hI'.setWaiter hw rfl
        next => exact hI'
      · exact hI'
    · exact hI'
  case wiJoined | wiIdle | expectTimeout | expectCancelReq =>
    dsimp only [apply0]
    split
    next hw => exact hI.setWaiter hw rfl
    next => exact hI
  case wiRecheck =>
    dsimp only [apply0]
    split
    next hw => exact .setWaiter (hI.setBus (.refl _)) hw rfl
    next => exact hI
  case stopEnd =>
    dsimp only [apply0]
    split
    next hw =>
      split
      · exact .setWaiter (.setBus (hI.setBus (.refl _)) (List.nil_sublist _)) hw rfl
      · exact .setWaiter (hI.setBus (.refl _)) hw rfl
    next => exact hI
  -- the other labels write neither a registry nor the table of callers
  all_goals exact keep rfl

theorem einv_wake {w : World} (hI : EInv w) : EInv (wake w) := by
  unfold wake
  generalize List.range w.nx = l
  induction l generalizing w with
  | nil => exact hI
  | cons x' t ih =>
    refine ih ?_
    dsimp only
    split
    · split
      next hw _ => exact hI.setWaiter hw rfl
      next => exact hI
    · split
      next hw _ => exact hI.setWaiter hw rfl
      next => exact hI
    · exact hI

theorem einv_reachable {w : World} (hr : Reachable w) : EInv w :=
  hr.induction ⟨fun _ _ _ _ hr => absurd hr List.not_mem_nil, fun _ _ hr => absurd hr List.not_mem_nil⟩
    fun w l _ hI hg => einv_wake (einv_apply0 w l hg hI)

/-- a call that ends, by a match, a timeout or the cancellation of its caller, does the same to the state -/
theorem apply_expectEnd (w : World) (x : Nat) (got : Option EId) : apply w (.expectEnd x got) = apply w (.expectCancel x) := rfl

theorem expect_over_handlers {w : World} {x : Nat} {b : BId} {key : Key} {k : HId} {d : Option Nat} {g : Option EId}
    {dead : Bool} (hw : w.waiter x = .expecting b key k d g dead) :
    ((apply w (.expectCancel x)).bus b).handlers = (w.bus b).handlers.eraseP (fun r => r.key == key && r.hid == k) ∧
    ∀ b', b' ≠ b → ((apply w (.expectCancel x)).bus b').handlers = (w.bus b').handlers := by
  have hh (b' : BId) : ((apply w (.expectCancel x)).bus b').handlers =
      if b' = b then (w.bus b).handlers.eraseP (matchesReg key k) else (w.bus b').handlers := by
    rw [apply, wake_bus]; dsimp only [apply0]; rw [hw]; exact apply_ite Bus.handlers _ _ _
  exact ⟨(hh b).trans (if_pos rfl), fun b' hb' => (hh b').trans (if_neg hb')⟩

namespace Thm

/-- C18 "the temporary subscription is removed when the call ends", for every reachable state: a handler of kind `expect x`
    is registered on a bus only while the call `x` is still blocked in `expect()` on exactly that bus, with exactly that key
    and handler id. No subscription of an `expect()` call is ever left behind - whichever way the call ended (match,
    timeout, cancellation of the caller) and whatever happened on the bus in between. -/
theorem C18_a_registered_expect_handler_belongs_to_a_pending_call (w : World) (hr : Reachable w) (b : BId) (r : Reg)
    (x pred : Nat) (hmem : r ∈ (w.bus b).handlers) (hk : r.kind = .expect x pred) :
    ∃ d g dead, w.waiter x = .expecting b r.key r.hid d g dead := by
  have h := (einv_reachable hr).owner b r x pred hmem hk
  generalize w.waiter x = s at h ⊢
  cases s <;> cases h
  exact ⟨_, _, _, rfl⟩

/-- … in particular a task that is not inside `expect()` (idle, or blocked in another bus call) has no subscription
    anywhere. -/
theorem C18_no_subscription_without_a_pending_call (w : World) (hr : Reachable w) (x : Nat)
    (hidle : ∀ b key k d g dead, w.waiter x ≠ .expecting b key k d g dead) (b : BId) (r : Reg) (pred : Nat)
    (hmem : r ∈ (w.bus b).handlers) : r.kind ≠ .expect x pred := by
  intro hk
  obtain ⟨d, g, dead, h⟩ := C18_a_registered_expect_handler_belongs_to_a_pending_call w hr b r x pred hmem hk
  exact hidle _ _ _ _ _ _ h

/-- … and a pending call has at most one subscription: its registration is the only one on its bus with its key and id. -/
theorem C18_the_subscription_of_a_call_is_unique (w : World) (hr : Reachable w) (b : BId) (r : Reg)
    (hmem : r ∈ (w.bus b).handlers) (hk : r.kind.isExpect = true) :
    (w.bus b).handlers.countP (fun r' => r'.key == r.key && r'.hid == r.hid) ≤ 1 :=
  (einv_reachable hr).uniq b r hmem hk

/-- **C18**: when `expect()` ends — match, timeout or raising predicate — exactly its temporary subscription is removed
    from its bus and no other bus's registrations change. -/
theorem C18_end_of_expect_removes_exactly_its_subscription (w w' : World) (x : Nat) (got : Option EId)
    (hs : step w (.expectEnd x got) = some w') :
    ∃ b key k d g dead, w.waiter x = .expecting b key k d g dead ∧
      (w'.bus b).handlers = (w.bus b).handlers.eraseP (fun r => r.key == key && r.hid == k) ∧
      ∀ b', b' ≠ b → (w'.bus b').handlers = (w.bus b').handlers := by
  obtain ⟨hg, rfl⟩ := step_some hs
  obtain ⟨hc, _⟩ := guard_all hg
  rw [apply_expectEnd]
  split at hc
  · exact ⟨_, _, _, _, _, _, ‹_›, expect_over_handlers ‹_›⟩
  · cases hc

/-- **C18**: the same when the calling task is cancelled. -/
theorem C18_cancelled_expect_removes_exactly_its_subscription (w w' : World) (x : Nat)
    (hs : step w (.expectCancel x) = some w') :
    ∃ b key k d g dead, w.waiter x = .expecting b key k d g dead ∧
      (w'.bus b).handlers = (w.bus b).handlers.eraseP (fun r => r.key == key && r.hid == k) ∧
      ∀ b', b' ≠ b → (w'.bus b').handlers = (w.bus b').handlers := by
  obtain ⟨hg, rfl⟩ := step_some hs
  obtain ⟨hc, _⟩ := guard_all hg
  split at hc
  · exact ⟨_, _, _, _, _, _, ‹_›, expect_over_handlers ‹_›⟩
  · cases hc

end Thm

end Bubus
