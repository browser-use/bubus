/-
  Bubus.Proofs.Setters — `rfl` lemmas for the setters: what each setter leaves alone (`setNi`, `setNe`, `setNb`, `setNow`
  have none for `nx`: nothing rewrites with it); `wake` only touches the table of blocked external tasks.
-/
import Bubus.Model.Step
namespace Bubus

@[simp] theorem setBus_bus_same (w : World) (b : BId) (x : Bus) : (w.setBus b x).bus b = x := by simp [World.setBus]
@[simp] theorem setBus_bus_other (w : World) (b b' : BId) (x : Bus) (h : b' ≠ b) : (w.setBus b x).bus b' = w.bus b' := by
  simp [World.setBus, h]
@[simp] theorem setBus_ev (w : World) (b : BId) (x : Bus) : (w.setBus b x).ev = w.ev := rfl
@[simp] theorem setBus_inst (w : World) (b : BId) (x : Bus) : (w.setBus b x).inst = w.inst := rfl
@[simp] theorem setBus_act (w : World) (b : BId) (x : Bus) : (w.setBus b x).act = w.act := rfl
@[simp] theorem setBus_lock (w : World) (b : BId) (x : Bus) : (w.setBus b x).lock = w.lock := rfl
@[simp] theorem setBus_nb (w : World) (b : BId) (x : Bus) : (w.setBus b x).nb = w.nb := rfl
@[simp] theorem setBus_ne (w : World) (b : BId) (x : Bus) : (w.setBus b x).ne = w.ne := rfl
@[simp] theorem setBus_ni (w : World) (b : BId) (x : Bus) : (w.setBus b x).ni = w.ni := rfl
@[simp] theorem setBus_now (w : World) (b : BId) (x : Bus) : (w.setBus b x).now = w.now := rfl
@[simp] theorem setBus_cfg (w : World) (b : BId) (x : Bus) : (w.setBus b x).cfg = w.cfg := rfl

@[simp] theorem setEv_ev_same (w : World) (e : EId) (x : Ev) : (w.setEv e x).ev e = x := by simp [World.setEv]
@[simp] theorem setEv_ev_other (w : World) (e e' : EId) (x : Ev) (h : e' ≠ e) : (w.setEv e x).ev e' = w.ev e' := by
  simp [World.setEv, h]
@[simp] theorem setEv_bus (w : World) (e : EId) (x : Ev) : (w.setEv e x).bus = w.bus := rfl
@[simp] theorem setEv_inst (w : World) (e : EId) (x : Ev) : (w.setEv e x).inst = w.inst := rfl
@[simp] theorem setEv_act (w : World) (e : EId) (x : Ev) : (w.setEv e x).act = w.act := rfl
@[simp] theorem setEv_lock (w : World) (e : EId) (x : Ev) : (w.setEv e x).lock = w.lock := rfl
@[simp] theorem setEv_nb (w : World) (e : EId) (x : Ev) : (w.setEv e x).nb = w.nb := rfl
@[simp] theorem setEv_ne (w : World) (e : EId) (x : Ev) : (w.setEv e x).ne = w.ne := rfl
@[simp] theorem setEv_ni (w : World) (e : EId) (x : Ev) : (w.setEv e x).ni = w.ni := rfl
@[simp] theorem setEv_now (w : World) (e : EId) (x : Ev) : (w.setEv e x).now = w.now := rfl
@[simp] theorem setEv_cfg (w : World) (e : EId) (x : Ev) : (w.setEv e x).cfg = w.cfg := rfl

@[simp] theorem setInst_inst_same (w : World) (i : IId) (x : Inst) : (w.setInst i x).inst i = x := by simp [World.setInst]
@[simp] theorem setInst_inst_other (w : World) (i i' : IId) (x : Inst) (h : i' ≠ i) : (w.setInst i x).inst i' = w.inst i' := by
  simp [World.setInst, h]
@[simp] theorem setInst_bus (w : World) (i : IId) (x : Inst) : (w.setInst i x).bus = w.bus := rfl
@[simp] theorem setInst_ev (w : World) (i : IId) (x : Inst) : (w.setInst i x).ev = w.ev := rfl
@[simp] theorem setInst_act (w : World) (i : IId) (x : Inst) : (w.setInst i x).act = w.act := rfl
@[simp] theorem setInst_lock (w : World) (i : IId) (x : Inst) : (w.setInst i x).lock = w.lock := rfl
@[simp] theorem setInst_nb (w : World) (i : IId) (x : Inst) : (w.setInst i x).nb = w.nb := rfl
@[simp] theorem setInst_ne (w : World) (i : IId) (x : Inst) : (w.setInst i x).ne = w.ne := rfl
@[simp] theorem setInst_ni (w : World) (i : IId) (x : Inst) : (w.setInst i x).ni = w.ni := rfl
@[simp] theorem setInst_now (w : World) (i : IId) (x : Inst) : (w.setInst i x).now = w.now := rfl
@[simp] theorem setInst_cfg (w : World) (i : IId) (x : Inst) : (w.setInst i x).cfg = w.cfg := rfl

@[simp] theorem setAct_act_same (w : World) (p : Proc) (x : Option Act) : (w.setAct p x).act p = x := by simp [World.setAct]
@[simp] theorem setAct_act_other (w : World) (p p' : Proc) (x : Option Act) (h : p' ≠ p) : (w.setAct p x).act p' = w.act p' := by
  simp [World.setAct, h]
@[simp] theorem setAct_bus (w : World) (p : Proc) (x : Option Act) : (w.setAct p x).bus = w.bus := rfl
@[simp] theorem setAct_ev (w : World) (p : Proc) (x : Option Act) : (w.setAct p x).ev = w.ev := rfl
@[simp] theorem setAct_inst (w : World) (p : Proc) (x : Option Act) : (w.setAct p x).inst = w.inst := rfl
@[simp] theorem setAct_lock (w : World) (p : Proc) (x : Option Act) : (w.setAct p x).lock = w.lock := rfl
@[simp] theorem setAct_nb (w : World) (p : Proc) (x : Option Act) : (w.setAct p x).nb = w.nb := rfl
@[simp] theorem setAct_ne (w : World) (p : Proc) (x : Option Act) : (w.setAct p x).ne = w.ne := rfl
@[simp] theorem setAct_ni (w : World) (p : Proc) (x : Option Act) : (w.setAct p x).ni = w.ni := rfl
@[simp] theorem setAct_now (w : World) (p : Proc) (x : Option Act) : (w.setAct p x).now = w.now := rfl
@[simp] theorem setAct_cfg (w : World) (p : Proc) (x : Option Act) : (w.setAct p x).cfg = w.cfg := rfl

@[simp] theorem setLock_lock (w : World) (l : Option BId) : (w.setLock l).lock = l := rfl
@[simp] theorem setLock_bus (w : World) (l : Option BId) : (w.setLock l).bus = w.bus := rfl
@[simp] theorem setLock_ev (w : World) (l : Option BId) : (w.setLock l).ev = w.ev := rfl
@[simp] theorem setLock_inst (w : World) (l : Option BId) : (w.setLock l).inst = w.inst := rfl
@[simp] theorem setLock_act (w : World) (l : Option BId) : (w.setLock l).act = w.act := rfl
@[simp] theorem setLock_nb (w : World) (l : Option BId) : (w.setLock l).nb = w.nb := rfl
@[simp] theorem setLock_ne (w : World) (l : Option BId) : (w.setLock l).ne = w.ne := rfl
@[simp] theorem setLock_ni (w : World) (l : Option BId) : (w.setLock l).ni = w.ni := rfl
@[simp] theorem setLock_now (w : World) (l : Option BId) : (w.setLock l).now = w.now := rfl
@[simp] theorem setLock_cfg (w : World) (l : Option BId) : (w.setLock l).cfg = w.cfg := rfl

@[simp] theorem setNow_now (w : World) (t : Nat) : (w.setNow t).now = t := rfl
@[simp] theorem setNow_bus (w : World) (t : Nat) : (w.setNow t).bus = w.bus := rfl
@[simp] theorem setNow_ev (w : World) (t : Nat) : (w.setNow t).ev = w.ev := rfl
@[simp] theorem setNow_inst (w : World) (t : Nat) : (w.setNow t).inst = w.inst := rfl
@[simp] theorem setNow_act (w : World) (t : Nat) : (w.setNow t).act = w.act := rfl
@[simp] theorem setNow_lock (w : World) (t : Nat) : (w.setNow t).lock = w.lock := rfl
@[simp] theorem setNow_nb (w : World) (t : Nat) : (w.setNow t).nb = w.nb := rfl
@[simp] theorem setNow_ne (w : World) (t : Nat) : (w.setNow t).ne = w.ne := rfl
@[simp] theorem setNow_ni (w : World) (t : Nat) : (w.setNow t).ni = w.ni := rfl
@[simp] theorem setNow_cfg (w : World) (t : Nat) : (w.setNow t).cfg = w.cfg := rfl

@[simp] theorem setNb_nb (w : World) (n : Nat) : (w.setNb n).nb = n := rfl
@[simp] theorem setNb_bus (w : World) (n : Nat) : (w.setNb n).bus = w.bus := rfl
@[simp] theorem setNb_ev (w : World) (n : Nat) : (w.setNb n).ev = w.ev := rfl
@[simp] theorem setNb_inst (w : World) (n : Nat) : (w.setNb n).inst = w.inst := rfl
@[simp] theorem setNb_act (w : World) (n : Nat) : (w.setNb n).act = w.act := rfl
@[simp] theorem setNb_lock (w : World) (n : Nat) : (w.setNb n).lock = w.lock := rfl
@[simp] theorem setNb_ne (w : World) (n : Nat) : (w.setNb n).ne = w.ne := rfl
@[simp] theorem setNb_ni (w : World) (n : Nat) : (w.setNb n).ni = w.ni := rfl
@[simp] theorem setNb_now (w : World) (n : Nat) : (w.setNb n).now = w.now := rfl
@[simp] theorem setNb_cfg (w : World) (n : Nat) : (w.setNb n).cfg = w.cfg := rfl

@[simp] theorem setNe_ne (w : World) (n : Nat) : (w.setNe n).ne = n := rfl
@[simp] theorem setNe_bus (w : World) (n : Nat) : (w.setNe n).bus = w.bus := rfl
@[simp] theorem setNe_ev (w : World) (n : Nat) : (w.setNe n).ev = w.ev := rfl
@[simp] theorem setNe_inst (w : World) (n : Nat) : (w.setNe n).inst = w.inst := rfl
@[simp] theorem setNe_act (w : World) (n : Nat) : (w.setNe n).act = w.act := rfl
@[simp] theorem setNe_lock (w : World) (n : Nat) : (w.setNe n).lock = w.lock := rfl
@[simp] theorem setNe_nb (w : World) (n : Nat) : (w.setNe n).nb = w.nb := rfl
@[simp] theorem setNe_ni (w : World) (n : Nat) : (w.setNe n).ni = w.ni := rfl
@[simp] theorem setNe_now (w : World) (n : Nat) : (w.setNe n).now = w.now := rfl
@[simp] theorem setNe_cfg (w : World) (n : Nat) : (w.setNe n).cfg = w.cfg := rfl

@[simp] theorem setNi_ni (w : World) (n : Nat) : (w.setNi n).ni = n := rfl
@[simp] theorem setNi_bus (w : World) (n : Nat) : (w.setNi n).bus = w.bus := rfl
@[simp] theorem setNi_ev (w : World) (n : Nat) : (w.setNi n).ev = w.ev := rfl
@[simp] theorem setNi_inst (w : World) (n : Nat) : (w.setNi n).inst = w.inst := rfl
@[simp] theorem setNi_act (w : World) (n : Nat) : (w.setNi n).act = w.act := rfl
@[simp] theorem setNi_lock (w : World) (n : Nat) : (w.setNi n).lock = w.lock := rfl
@[simp] theorem setNi_nb (w : World) (n : Nat) : (w.setNi n).nb = w.nb := rfl
@[simp] theorem setNi_ne (w : World) (n : Nat) : (w.setNi n).ne = w.ne := rfl
@[simp] theorem setNi_now (w : World) (n : Nat) : (w.setNi n).now = w.now := rfl
@[simp] theorem setNi_cfg (w : World) (n : Nat) : (w.setNi n).cfg = w.cfg := rfl

@[simp] theorem setWaiter_bus (w : World) (x : Nat) (s : WSt) : (w.setWaiter x s).bus = w.bus := rfl
@[simp] theorem setWaiter_ev (w : World) (x : Nat) (s : WSt) : (w.setWaiter x s).ev = w.ev := rfl
@[simp] theorem setWaiter_inst (w : World) (x : Nat) (s : WSt) : (w.setWaiter x s).inst = w.inst := rfl
@[simp] theorem setWaiter_act (w : World) (x : Nat) (s : WSt) : (w.setWaiter x s).act = w.act := rfl
@[simp] theorem setWaiter_lock (w : World) (x : Nat) (s : WSt) : (w.setWaiter x s).lock = w.lock := rfl
@[simp] theorem setWaiter_nb (w : World) (x : Nat) (s : WSt) : (w.setWaiter x s).nb = w.nb := rfl
@[simp] theorem setWaiter_ne (w : World) (x : Nat) (s : WSt) : (w.setWaiter x s).ne = w.ne := rfl
@[simp] theorem setWaiter_ni (w : World) (x : Nat) (s : WSt) : (w.setWaiter x s).ni = w.ni := rfl
@[simp] theorem setWaiter_now (w : World) (x : Nat) (s : WSt) : (w.setWaiter x s).now = w.now := rfl
@[simp] theorem setWaiter_cfg (w : World) (x : Nat) (s : WSt) : (w.setWaiter x s).cfg = w.cfg := rfl
@[simp] theorem setBus_waiter (w : World) (b : BId) (x : Bus) : (w.setBus b x).waiter = w.waiter := rfl
@[simp] theorem setEv_waiter (w : World) (e : EId) (x : Ev) : (w.setEv e x).waiter = w.waiter := rfl
@[simp] theorem setInst_waiter (w : World) (i : IId) (x : Inst) : (w.setInst i x).waiter = w.waiter := rfl
@[simp] theorem setAct_waiter (w : World) (p : Proc) (x : Option Act) : (w.setAct p x).waiter = w.waiter := rfl
@[simp] theorem setLock_waiter (w : World) (l : Option BId) : (w.setLock l).waiter = w.waiter := rfl
@[simp] theorem setBus_nx (w : World) (b : BId) (x : Bus) : (w.setBus b x).nx = w.nx := rfl
@[simp] theorem setEv_nx (w : World) (e : EId) (x : Ev) : (w.setEv e x).nx = w.nx := rfl
@[simp] theorem setInst_nx (w : World) (i : IId) (x : Inst) : (w.setInst i x).nx = w.nx := rfl
@[simp] theorem setAct_nx (w : World) (p : Proc) (x : Option Act) : (w.setAct p x).nx = w.nx := rfl
@[simp] theorem setLock_nx (w : World) (l : Option BId) : (w.setLock l).nx = w.nx := rfl

@[simp] theorem setStack_stack (w : World) (l : List IId) : (w.setStack l).stack = l := rfl
@[simp] theorem setStack_bus (w : World) (l : List IId) : (w.setStack l).bus = w.bus := rfl
@[simp] theorem setStack_ev (w : World) (l : List IId) : (w.setStack l).ev = w.ev := rfl
@[simp] theorem setStack_inst (w : World) (l : List IId) : (w.setStack l).inst = w.inst := rfl
@[simp] theorem setStack_act (w : World) (l : List IId) : (w.setStack l).act = w.act := rfl
@[simp] theorem setStack_lock (w : World) (l : List IId) : (w.setStack l).lock = w.lock := rfl
@[simp] theorem setStack_nb (w : World) (l : List IId) : (w.setStack l).nb = w.nb := rfl
@[simp] theorem setStack_ne (w : World) (l : List IId) : (w.setStack l).ne = w.ne := rfl
@[simp] theorem setStack_ni (w : World) (l : List IId) : (w.setStack l).ni = w.ni := rfl
@[simp] theorem setStack_now (w : World) (l : List IId) : (w.setStack l).now = w.now := rfl
@[simp] theorem setStack_cfg (w : World) (l : List IId) : (w.setStack l).cfg = w.cfg := rfl
@[simp] theorem setStack_waiter (w : World) (l : List IId) : (w.setStack l).waiter = w.waiter := rfl
@[simp] theorem setStack_nx (w : World) (l : List IId) : (w.setStack l).nx = w.nx := rfl
@[simp] theorem setBus_stack (w : World) (b : BId) (x : Bus) : (w.setBus b x).stack = w.stack := rfl
@[simp] theorem setEv_stack (w : World) (e : EId) (x : Ev) : (w.setEv e x).stack = w.stack := rfl
@[simp] theorem setInst_stack (w : World) (i : IId) (x : Inst) : (w.setInst i x).stack = w.stack := rfl
@[simp] theorem setAct_stack (w : World) (p : Proc) (x : Option Act) : (w.setAct p x).stack = w.stack := rfl
@[simp] theorem setLock_stack (w : World) (l : Option BId) : (w.setLock l).stack = w.stack := rfl
@[simp] theorem setNow_stack (w : World) (t : Nat) : (w.setNow t).stack = w.stack := rfl
@[simp] theorem setNb_stack (w : World) (n : Nat) : (w.setNb n).stack = w.stack := rfl
@[simp] theorem setNe_stack (w : World) (n : Nat) : (w.setNe n).stack = w.stack := rfl
@[simp] theorem setNi_stack (w : World) (n : Nat) : (w.setNi n).stack = w.stack := rfl
@[simp] theorem setWaiter_stack (w : World) (x : Nat) (s : WSt) : (w.setWaiter x s).stack = w.stack := rfl

@[simp] theorem setNi_waiter (w : World) (n : Nat) : (w.setNi n).waiter = w.waiter := rfl
@[simp] theorem setNe_waiter (w : World) (n : Nat) : (w.setNe n).waiter = w.waiter := rfl
@[simp] theorem setNb_waiter (w : World) (n : Nat) : (w.setNb n).waiter = w.waiter := rfl
@[simp] theorem setNow_waiter (w : World) (n : Nat) : (w.setNow n).waiter = w.waiter := rfl

/-- the part of the world that is not about blocked external tasks -/
structure Core where
  cfg : Config
  bus : BId → Bus
  ev : EId → Ev
  inst : IId → Inst
  act : Proc → Option Act
  lock : Option BId
  nb : Nat
  ne : Nat
  ni : Nat
  now : Nat
  stack : List IId

def World.core (w : World) : Core :=
  { cfg := w.cfg, bus := w.bus, ev := w.ev, inst := w.inst, act := w.act, lock := w.lock, nb := w.nb, ne := w.ne, ni := w.ni,
    now := w.now, stack := w.stack }

@[simp] theorem setWaiter_core (w : World) (x : Nat) (s : WSt) : (w.setWaiter x s).core = w.core := rfl

theorem wake_core (w : World) : (wake w).core = w.core := by
  unfold wake
  generalize List.range w.nx = l
  induction l generalizing w with
  | nil => rfl
  | cons x xs ih =>
    simp only [List.foldl_cons]
    rw [ih]
    split <;> (try split) <;> simp

/-- … so the new state is the old one with another table: what does not read the table is, by unfolding, the same
    proposition of both -/
theorem wake_eq (w : World) : ∃ W n, wake w = { w with waiter := W, nx := n } := by
  have h := wake_core w
  generalize wake w = w' at h
  cases w; cases w'
  simp only [World.core, Core.mk.injEq] at h
  obtain ⟨rfl, rfl, rfl, rfl, rfl, rfl, rfl, rfl, rfl, rfl, rfl⟩ := h
  exact ⟨_, _, rfl⟩

@[simp] theorem wake_bus (w : World) : (wake w).bus = w.bus := congrArg Core.bus (wake_core w)
@[simp] theorem wake_ev (w : World) : (wake w).ev = w.ev := congrArg Core.ev (wake_core w)
@[simp] theorem wake_inst (w : World) : (wake w).inst = w.inst := congrArg Core.inst (wake_core w)
@[simp] theorem wake_act (w : World) : (wake w).act = w.act := congrArg Core.act (wake_core w)
@[simp] theorem wake_lock (w : World) : (wake w).lock = w.lock := congrArg Core.lock (wake_core w)
@[simp] theorem wake_nb (w : World) : (wake w).nb = w.nb := congrArg Core.nb (wake_core w)
@[simp] theorem wake_ne (w : World) : (wake w).ne = w.ne := congrArg Core.ne (wake_core w)
@[simp] theorem wake_ni (w : World) : (wake w).ni = w.ni := congrArg Core.ni (wake_core w)
@[simp] theorem wake_now (w : World) : (wake w).now = w.now := congrArg Core.now (wake_core w)
@[simp] theorem wake_cfg (w : World) : (wake w).cfg = w.cfg := congrArg Core.cfg (wake_core w)
@[simp] theorem wake_stack (w : World) : (wake w).stack = w.stack := congrArg Core.stack (wake_core w)

@[simp] theorem modBus_eq (w : World) (b : BId) (f : Bus → Bus) : w.modBus b f = w.setBus b (f (w.bus b)) := rfl
@[simp] theorem modEv_eq (w : World) (e : EId) (f : Ev → Ev) : w.modEv e f = w.setEv e (f (w.ev e)) := rfl
@[simp] theorem modInst_eq (w : World) (i : IId) (f : Inst → Inst) : w.modInst i f = w.setInst i (f (w.inst i)) := rfl

theorem setBus_bus (w : World) (b b' : BId) (x : Bus) : (w.setBus b x).bus b' = if b' = b then x else w.bus b' := rfl
theorem setEv_ev (w : World) (e e' : EId) (x : Ev) : (w.setEv e x).ev e' = if e' = e then x else w.ev e' := rfl
theorem setInst_inst (w : World) (i i' : IId) (x : Inst) : (w.setInst i x).inst i' = if i' = i then x else w.inst i' := rfl
theorem setAct_act (w : World) (p p' : Proc) (x : Option Act) : (w.setAct p x).act p' = if p' = p then x else w.act p' := rfl

section
variable {α : Type} (w : World)

/-- component `π` of bus `b` after bus `b'` has been rewritten by `f` (`simp only [modBus_proj _ Bus.rl]` reads a field off
    a chain of setters without unfolding them) -/
theorem modBus_proj (π : Bus → α) (b' : BId) (f : Bus → Bus) (b : BId) :
    π ((w.modBus b' f).bus b) = if b = b' then π (f (w.bus b)) else π (w.bus b) := by
  show π (if b = b' then f (w.bus b') else w.bus b) = _
  split
  · rename_i h; rw [h]
  · rfl

theorem modInst_proj (π : Inst → α) (i' : IId) (f : Inst → Inst) (i : IId) :
    π ((w.modInst i' f).inst i) = if i = i' then π (f (w.inst i)) else π (w.inst i) := by
  show π (if i = i' then f (w.inst i') else w.inst i) = _
  split
  · rename_i h; rw [h]
  · rfl

end

end Bubus
