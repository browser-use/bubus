/-
  Bubus.Proofs.Stable — what an existing event keeps along every run from any state: the completion signal, once set (C08),
  hence an external waiter's return stays enabled from that moment (C03, release side); its parent link (C09); its type
  and its path, which only grows at the end (C07). All are fields of `run_evLe`.
-/
import Bubus.Proofs.Forward
namespace Bubus.Thm

/-- **C08**: no transition of the system — whatever the handlers, buses, forwarding, timeouts and schedule — resets the
    completion signal of an existing event: once an await on it could return, it can return forever after. -/
theorem C08_completion_signal_is_never_reset (w w' : World) (ls : List Label) (e : EId) (he : e < w.ne)
    (hr : run w ls = some w') (h : (w.ev e).signal = true) : (w'.ev e).signal = true :=
  (run_evLe he hr).1.signal h

/-- **C03 (release side)**: from the moment an event's completion signal is set, the return of an external `await event`
    is enabled in every later state, without further stimulus. -/
theorem C03_release_stays_enabled (w w' : World) (ls : List Label) (e : EId) (he : e < w.ne)
    (hr : run w ls = some w') (h : (w.ev e).signal = true) : guard w' (.xAwaitEnd e) = true := by
  obtain ⟨hle, hne⟩ := run_evLe he hr
  exact guard_of_all ⟨decide_eq_true hne, hle.signal h, trivial⟩

/-- **C09**: the parent link of an existing event, once set, is never changed — by any transition, along any run
    (so a child is never re-attributed to another handler's event later). -/
theorem C09_parent_link_is_never_changed (w w' : World) (ls : List Label) (e p : EId) (he : e < w.ne)
    (hr : run w ls = some w') (hp : (w.ev e).parent = some p) : (w'.ev e).parent = some p :=
  (run_evLe he hr).1.parent p hp

/-- **C07**: an event's path only ever grows at its end — buses are listed in order of arrival and an entry is never
    removed or reordered — and (with `C07_no_bus_twice_in_any_path`) each bus at most once. -/
theorem C07_path_only_grows_at_the_end (w w' : World) (ls : List Label) (e : EId) (he : e < w.ne)
    (hr : run w ls = some w') : (w.ev e).path <+: (w'.ev e).path :=
  (run_evLe he hr).1.path

/-- **C03 / C07 (same event)**: an event keeps its type along every run. -/
theorem C07_event_type_is_stable (w w' : World) (ls : List Label) (e : EId) (he : e < w.ne)
    (hr : run w ls = some w') : (w'.ev e).etype = (w.ev e).etype :=
  (run_evLe he hr).1.etype

end Bubus.Thm
