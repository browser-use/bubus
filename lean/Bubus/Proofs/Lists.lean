/-
  Bubus.Proofs.Lists — facts about lists and options that are not about the model.
-/
namespace Bubus

theorem length_filter_not_mem {α : Type} [BEq α] [LawfulBEq α] (h V : List α) (hn : h.Nodup) (vn : V.Nodup) (hsub : ∀ x ∈ V, x ∈ h) :
    (h.filter fun e => !V.contains e).length + V.length = h.length := by
  have hperm : (h.filter fun e => V.contains e).Perm V := by
    rw [List.perm_ext_iff_of_nodup (hn.sublist List.filter_sublist) vn]
    intro a
    rw [List.mem_filter, List.contains_iff_mem]
    exact ⟨fun h2 => h2.2, fun h2 => ⟨hsub a h2, h2⟩⟩
  have := (List.filter_append_perm (fun e => V.contains e) h).length_eq
  rw [List.length_append, hperm.length_eq] at this
  omega

theorem mem_take_of_pairwise {α : Type} {R : α → α → Prop} {L : List α} (hs : L.Pairwise R) {j : Nat} {x y : α}
    (hx : x ∈ L.take j) (hy : y ∈ L) (hyx : ¬ R x y) : y ∈ L.take j := by
  rw [← List.take_append_drop j L] at hy hs
  exact (List.mem_append.mp hy).resolve_right fun h => hyx ((List.pairwise_append.mp hs).2.2 x hx y h)

theorem mem_tail_of_head? {α : Type} {l : List α} {a b : α} (h : l.head? = some a) (hb : b ∈ l) : b = a ∨ b ∈ l.tail := by
  obtain ⟨t, rfl⟩ := List.head?_eq_some_iff.mp h
  exact List.mem_cons.mp hb

theorem nodup_concat {α : Type} {l : List α} {a : α} (hn : l.Nodup) (h : a ∉ l) : (l ++ [a]).Nodup :=
  List.nodup_append.mpr ⟨hn, List.pairwise_singleton _ _, fun _ hx _ hy e => h (List.mem_singleton.mp hy ▸ e ▸ hx)⟩

/-- a sum over a duplicate-free list when one summand changes; stated crosswise (new sum + old summand = old sum + new
    summand) so that no subtraction appears -/
theorem sum_map_update {α : Type} {f g : α → Nat} {c : α} (h : ∀ x, x ≠ c → g x = f x) {l : List α} (hn : l.Nodup) (hc : c ∈ l) :
    (l.map g).sum + f c = (l.map f).sum + g c := by
  induction l with
  | nil => cases hc
  | cons a t ih =>
    rw [List.nodup_cons] at hn
    rw [List.map_cons, List.map_cons, List.sum_cons, List.sum_cons]
    by_cases hac : a = c
    · subst hac
      rw [List.map_congr_left fun x hx => h x fun e => hn.1 (e ▸ hx)]
      omega
    · have := ih hn.2 ((List.mem_cons.mp hc).resolve_left (Ne.symm hac))
      rw [h a hac]
      omega

theorem countP_eraseP {α : Type} (p : α → Bool) (l : List α) : (l.eraseP p).countP p = l.countP p - 1 := by
  induction l with
  | nil => rfl
  | cons a t ih => by_cases ha : p a = true <;> simp [ha, ih]

theorem eq_none_of_isSome_imp {α : Type} {a b : Option α} (h : a.isSome → b.isSome) (hb : b = none) : a = none := by
  subst hb; cases a
  · rfl
  · cases h rfl

theorem eq_none_of_isSome_eq {α : Type} {a b : Option α} (h : a.isSome = b.isSome) (hb : b = none) : a = none :=
  eq_none_of_isSome_imp (h ▸ id) hb

theorem flatMap_filter_of_nil {α β : Type} {f : α → List β} {p : α → Bool} (h : ∀ a, p a = false → f a = [])
    (l : List α) : (l.filter p).flatMap f = l.flatMap f := by
  induction l with
  | nil => rfl
  | cons a l ih =>
    cases hp : p a
    · rw [List.filter_cons_of_neg (Bool.eq_false_iff.mp hp), List.flatMap_cons, h a hp, List.nil_append, ih]
    · rw [List.filter_cons_of_pos hp, List.flatMap_cons, List.flatMap_cons, ih]

theorem countP_range_extend (p : Nat → Bool) {n m : Nat} (hnm : n ≤ m) (h : ∀ x, n ≤ x → p x = false) :
    (List.range m).countP p = (List.range n).countP p := by
  induction hnm with
  | refl => rfl
  | step hle ih => rw [List.range_succ, List.countP_append, ih]; simp [h _ hle]

theorem countP_range_update (p q : Nat → Bool) (c : Nat) (h : ∀ x, x ≠ c → q x = p x) {n : Nat}
    (hp : n ≤ c → p c = false) (hq : n ≤ c → q c = false) :
    (List.range n).countP q + (if p c then 1 else 0) = (List.range n).countP p + (if q c then 1 else 0) := by
  induction n with
  | zero => rw [hp (Nat.zero_le _), hq (Nat.zero_le _)]; rfl
  | succ n ih =>
    rw [List.range_succ, List.countP_append, List.countP_append, List.countP_singleton, List.countP_singleton]
    by_cases hnc : n = c
    · subst hnc
      rw [List.countP_congr fun x hx => by rw [h x (Nat.ne_of_lt (List.mem_range.mp hx))]]
      omega
    · have := ih (fun e => hp (by omega)) (fun e => hq (by omega))
      rw [h n hnc]
      omega

end Bubus
