/-
  Bubus.Proofs.InlineDone — C10 / C04 on serial buses: a handler that runs inside another handler's await (its executor is
  that handler instance) is live only while that handler is suspended in the await.  Hence, in every reachable state, once
  a handler's body has ended - it returned, raised, or was cut off by its deadline or a cancellation from further up -
  every handler it was running inline has finished: nothing it started goes on executing behind its back. Also C05 on
  serial buses (whatever executes while a handler is alive runs inside it) and the guard facts about the polling loop.
-/
import Bubus.Proofs.MutexThm
namespace Bubus

theorem chain_exec_waits (w : World) (l : List IId) (hc : Chain w l) :
    ∀ j ∈ l, ∀ i, (w.inst j).exec = .inst i → cs (w.inst i).st = .wait := by
  fun_induction Chain w l with
  | case1 => nofun
  | case2 a =>
    obtain ⟨b, h1, _⟩ := hc
    intro j hj i hex
    rw [List.mem_singleton.mp hj, h1] at hex; cases hex
  | case3 a a' rest ih =>
    obtain ⟨h1, _, h3, h4⟩ := hc
    intro j hj i hex
    rcases List.mem_cons.mp hj with rfl | hj
    · rw [h1] at hex
      injection hex with hex
      exact hex ▸ h3
    · exact ih h4 j hj i hex

/-- follow the executor links `n` times upwards from an instance: the handler instance inside whose await it runs, … -/
def iterExec (w : World) : Nat → IId → Option IId
  | 0, j => some j
  | n + 1, j => match (w.inst j).exec with
    | .inst k => iterExec w n k
    | _ => none

theorem chain_head_reaches (w : World) (l : List IId) (hc : Chain w l) :
    ∀ a, l.head? = some a → ∀ i ∈ l, ∃ n, iterExec w n a = some i := by
  fun_induction Chain w l with
  | case1 => nofun
  | case2 x =>
    rintro a ⟨⟩ i hi
    exact ⟨0, by rw [List.mem_singleton.mp hi]; rfl⟩
  | case3 x y rest ih =>
    rintro a ⟨⟩ i hi
    rcases List.mem_cons.mp hi with rfl | hi
    · exact ⟨0, rfl⟩
    · obtain ⟨n, hn⟩ := ih hc.2.2.2 y rfl i hi
      exact ⟨n + 1, by rw [iterExec, hc.1]; exact hn⟩

namespace Thm

/-- **C10 / C04 (nothing runs on behind an ended handler), for every reachable state of serial buses**: a handler instance `j`
    whose executor is the handler instance `i` (it runs inside an `await` of `i`) is unfinished only while `i` is suspended
    in that await. -/
theorem C10_a_handler_run_inside_an_await_is_live_only_while_the_awaiting_handler_is_suspended (ls : List Label) (w : World)
    (hser : SerialRun ls) (hrun : run {} ls = some w) (i j : IId) (hex : (w.inst j).exec = .inst i)
    (hj : (w.inst j).st ≠ .finished) : ∃ c, (w.inst i).st = .awaiting c := by
  have hI := minv_run hser hrun
  exact cs_eq_wait.mp (chain_exec_waits w w.stack hI.chain j ((hI.mem j).mpr fun h => hj (cs_eq_fin.mp h)) i hex)

/-- **C10**: corollary - once the body of a handler has ended (returned, raised, or was cancelled by its deadline or from
    further up: state `ended`, or `finished` once the outcome is recorded), every handler it ran inline has finished. -/
theorem C10_when_a_handler_has_ended_every_handler_it_ran_inline_has_finished (ls : List Label) (w : World)
    (hser : SerialRun ls) (hrun : run {} ls = some w) (i j : IId) (hex : (w.inst j).exec = .inst i)
    (hi : (w.inst i).st = .ended ∨ (w.inst i).st = .finished) : (w.inst j).st = .finished :=
  Decidable.byContradiction fun hj => by
    obtain ⟨c, hc⟩ := C10_a_handler_run_inside_an_await_is_live_only_while_the_awaiting_handler_is_suspended ls w hser hrun i j hex hj
    rcases hi with hi | hi <;> rw [hc] at hi <;> cases hi

/-- **C04**: the same fact read at the moment an in-handler `await` has returned: a handler that is executing (not suspended
    in an await) has no unfinished handler below it - whatever it processed inline while it waited has finished. -/
theorem C04_an_executing_handler_has_no_unfinished_inline_handler (ls : List Label) (w : World)
    (hser : SerialRun ls) (hrun : run {} ls = some w) (i j : IId) (hex : (w.inst j).exec = .inst i)
    (hi : (w.inst i).st = .running) : (w.inst j).st = .finished :=
  Decidable.byContradiction fun hj => by
    obtain ⟨c, hc⟩ := C10_a_handler_run_inside_an_await_is_live_only_while_the_awaiting_handler_is_suspended ls w hser hrun i j hex hj
    rw [hc] at hi; cases hi

/-- **C05 (nothing runs beside an awaiting handler), for every reachable state of serial buses**: while a handler instance `i`
    is alive (in particular: suspended in an `await`), whatever handler instance `j` is executing has been started from
    inside `i` - following the executor links upwards from `j` (the handler inside whose await it runs, and so on) leads
    to `i`. No run loop and no other task starts a handler beside an awaiting one; what runs in the window of an await is
    run by the awaiting handler's own loop. -/
theorem C05_whatever_executes_while_a_handler_is_alive_runs_inside_it (ls : List Label) (w : World)
    (hser : SerialRun ls) (hrun : run {} ls = some w) (i j : IId)
    (hi : (w.inst i).st ≠ .finished) (hj : cs (w.inst j).st = .busy) : ∃ n, iterExec w n j = some i := by
  have hI := minv_run hser hrun
  exact chain_head_reaches w w.stack hI.chain j (only_top_busy w hI j hj) i ((hI.mem i).mpr fun h => hi (cs_eq_fin.mp h))

/-- **C05** (the awaited child is reached without a detour through the event loop): the polling loop of an in-handler `await`
    suspends only after a pass that found the queue of every bus (still registered) empty - while some queue holds an event,
    its next step is to take one. -/
theorem C05_the_await_suspends_only_when_every_queue_is_empty (w w' : World) (i : IId)
    (hs : step w (.pollYield i) = some w') (b : BId) (hb : b < w.nb) (hreg : (w.bus b).removed = false) :
    (w.bus b).queue = [] := by
  obtain ⟨_, _, hq, _⟩ := guard_all (step_some hs).1
  have := List.all_eq_true.mp hq b (List.mem_range.mpr hb)
  rw [hreg] at this
  exact List.isEmpty_iff.mp this

/-- **C04 / C03** ("the await never deadlocks", "awaiting always returns"): the polling loop of an in-handler `await` is bounded -
    it suspends at most `maxPoll` (1000) times (every pass over the buses ends in at most one suspension); after that many passes
    the await gives up and returns. -/
theorem C04_the_polling_loop_of_an_await_is_bounded (w w' : World) (i : IId)
    (hs : step w (.pollYield i) = some w') : (w.inst i).yields < w.cfg.maxPoll := by
  obtain ⟨_, _, _, hy, _⟩ := guard_all (step_some hs).1
  exact of_decide_eq_true hy

end Thm
end Bubus
