/-
  Bubus.Proofs.MutexThm — C06 for every reachable state of serial buses: the chain invariant holds along every run,
  hence at most one handler executes at a time, across all buses. (Stated over `run {} ls = some w` with `SerialRun ls`, not
  over `Reachable w`: that no bus has `parallel_handlers` is a condition on the labels of the run.)
-/
import Bubus.Proofs.MutexInv
import Bubus.Spec.Monitors
namespace Bubus

/-- no bus of the run is created with `parallel_handlers=True` -/
def serialLabel : Label → Bool
  | .newBus _ par _ _ => !par
  | _ => true

def SerialRun (ls : List Label) : Prop := ∀ l ∈ ls, serialLabel l = true

theorem minv_init : MInv ({} : World) :=
  ⟨fun _ => rfl, fun _ => iff_of_false List.not_mem_nil fun h => h rfl, List.nodup_nil, trivial, nofun, nofun, rfl, nofun, nofun,
    fun _ _ => ⟨rfl, rfl, rfl⟩⟩

theorem minv_step {w : World} {l : Label} (hI : MInv w) (hg : guard w l = true) (hl : serialLabel l = true) : MInv (apply w l) :=
  minv_of_sameView ((wake_frame _).agree rfl).sameView (minv_apply0 w l hg hI fun b maxh wal hb => by rw [hb] at hl; cases hl)

theorem minv_run {ls : List Label} {w : World} (hser : SerialRun ls) (h : run {} ls = some w) : MInv w :=
  run_invariant_on (fun _ l hl hI hg => minv_step hI hg (hser l hl)) minv_init h

theorem MInv.busy_unique {w : World} (hI : MInv w) {i j : IId} (hi : cs (w.inst i).st = .busy) (hj : cs (w.inst j).st = .busy) :
    i = j := by
  have h := only_top_busy w hI i hi
  rw [only_top_busy w hI j hj] at h
  exact (Option.some.inj h).symm

namespace Thm

/-- **C06 (mutual exclusion), for every reachable state of serial buses**: whatever the number of buses, the forwarding
    topology, the nesting of awaits, timeouts, cancellations and the schedule, at most one handler instance is executing
    (scheduled, running or ended-but-unrecorded) at any time; every other live instance is suspended in an await. -/
theorem C06_at_most_one_handler_executes_at_a_time (ls : List Label) (w : World) (hser : SerialRun ls)
    (hrun : run {} ls = some w) (i j : IId)
    (hi : cs (w.inst i).st = .busy) (hj : cs (w.inst j).st = .busy) : i = j :=
  (minv_run hser hrun).busy_unique hi hj

/-- **C06**: in every reachable state of serial buses, a live handler instance exists only while some run loop holds the
    global lock, and the live instances form one chain of nested inline activations below that run loop. -/
theorem C06_live_handlers_run_under_the_global_lock (ls : List Label) (w : World) (hser : SerialRun ls)
    (hrun : run {} ls = some w) (i : IId) (hi : cs (w.inst i).st ≠ .fin) :
    ∃ b, w.lock = some b ∧ Chain w w.stack ∧ i ∈ w.stack := by
  have hI := minv_run hser hrun
  have hmem := (hI.mem i).mpr hi
  obtain ⟨b, _, hl, _⟩ := chain_bottom w w.stack (fun h => by rw [h] at hmem; cases hmem) hI.chain
  exact ⟨b, hl, hI.chain, hmem⟩

end Thm

theorem started_alone {ls : List Label} {w w' : World} (hser : SerialRun ls) (hrun : run {} ls = some w) {j : IId}
    (hs : step w (.hStart j) = some w') (i : IId) (hi : cs (w'.inst i).st = .busy) : i = j := by
  obtain ⟨hg, rfl⟩ := step_some hs
  refine (minv_step (minv_run hser hrun) hg rfl).busy_unique hi ?_
  rw [apply, wake_inst, apply0_st]
  exact congrArg cs (if_pos rfl)

namespace Thm

/-- **C06**, as the run-time monitor states it: when a handler starts on serial buses, no other handler instance is
    running un-suspended (the clause `C06.exclusive` evaluated by the correspondence check on every real trace). -/
theorem C06_a_starting_handler_is_exclusive (ls : List Label) (w w' : World) (hser : SerialRun ls)
    (hrun : run {} ls = some w) (j : IId) (hs : step w (.hStart j) = some w') : C06.exclusive w' j = true := by
  simp only [C06.exclusive, C06.pairOk, List.all_eq_true, Bool.or_eq_true, beq_iff_eq, bne_iff_ne]
  intro i1 _
  by_cases h : i1 = j
  · exact Or.inl h
  · exact Or.inr (Or.inl (Or.inl fun hst => h (started_alone hser hrun hs i1 (by rw [hst]; rfl))))

/-- **C02 (second clause), for every reachable state of serial buses**: when a handler starts, no handler of another event
    of that bus — indeed no other handler at all — is running un-suspended: a bus does not start a later event while a
    handler of an earlier one is still running, other than while that handler is suspended awaiting an event. -/
theorem C02_serial_bus_starts_no_handler_beside_a_running_one (ls : List Label) (w w' : World) (hser : SerialRun ls)
    (hrun : run {} ls = some w) (j : IId) (hs : step w (.hStart j) = some w') : C02.serialNoOverlap w' j = true := by
  simp only [C02.serialNoOverlap, Bool.or_eq_true, Bool.not_eq_true', List.any_eq_false, Bool.and_eq_true, bne_iff_ne,
    beq_iff_eq, not_and]
  exact Or.inr fun i1 _ hne hst => hne.1.1 (started_alone hser hrun hs i1 (by rw [hst]; rfl))

end Thm
end Bubus
