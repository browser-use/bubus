/-
  Bubus.Proofs.Account — queue accounting (C15): on every bus, the number of queued events plus the events in some
  executor's hand (taken but `task_done()` not yet called) never exceeds the queue's unfinished-task counter.
  Hence `queue.join()` — which `wait_until_idle()` awaits first — can only be released at a moment when nothing is
  queued on the bus and no event of the bus is in hand or being processed.

  One invariant of the reachable states, `Acc`: the inequality itself, generalised in two ways so that every setter of a label
  keeps it. By a number of events in transit between two places: a label moves one event from the queue into a hand, from one
  hand to another, or out of a hand and off the counter. And from the executors that `hand` adds up (the run loop of the bus,
  the instances below `ni`) to any list of executors without repetition: an executor whose holdings change is on the list or
  can be put on it, so the invariant need not say who can hold an event (no instance from `ni` on, no run loop an event of
  another bus, external code none).
-/
import Bubus.Proofs.Footprint
import Bubus.Proofs.Lists
namespace Bubus

/-- what the accounting invariant reads -/
def World.acct (w : World) :
    (BId → List EId × Nat × Bool) × (Proc → Option BId) × (IId → Option (BId × EId)) × Nat × Nat :=
  (fun b => acctB (w.bus b), fun p => (w.act p).map (·.bus),
   fun i => (w.inst i).took, w.ni, w.nb)

theorem acct_congr_setLock (w1 w2 : World) (l : Option BId) (h : w1.acct = w2.acct) :
    (w1.setLock l).acct = (w2.setLock l).acct := h

theorem isTook_back (r : Bool) : (if r = true then RL.polling else RL.exited).isTook = false := by cases r <;> rfl

theorem tookOn_none {w : World} {i : IId} (h : (w.inst i).took = none) (b : BId) : tookOn w b i = false := by
  simp [tookOn, h]

theorem tookOn_some {w : World} {i : IId} {b' : BId} {e : EId} (h : (w.inst i).took = some (b', e)) (b : BId) :
    tookOn w b i = (b' == b) := by
  simp [tookOn, h]

theorem actOn_none {w : World} {p : Proc} (h : w.act p = none) (b : BId) : actOn w b p = false := by
  simp [actOn, h]

theorem actOn_some {w : World} {p : Proc} {A : Act} (h : w.act p = some A) (b : BId) : actOn w b p = (A.bus == b) := by
  simp [actOn, h]

/-- the events of bus `b` that executor `p` holds, the one a run loop's `get()` returned apart (that one is counted with the
    bus): the event an instance took, and an open activation -/
def holds (w : World) (b : BId) (p : Proc) : Nat :=
  (match p with | .inst i => if tookOn w b i then 1 else 0 | _ => 0) + if actOn w b p then 1 else 0

/-- the accounting inequality, with `k b` further events of bus `b` in transit (off the queue and not yet in a hand, or out of
    a hand and not yet counted off), and with any executors `ps` in place of those `hand` adds up; a bus that does not exist
    yet has nothing queued or in hand -/
def Acc (w : World) (k : BId → Nat := fun _ => 0) : Prop :=
  ∀ b (ps : List Proc), ps.Nodup →
    (w.bus b).queue.length + (if (w.bus b).rl.isTook then 1 else 0) + (ps.map (holds w b)).sum + k b ≤
      if b < w.nb then (w.bus b).unfinished else 0

namespace Acc
variable {w w' : World} {k k' : BId → Nat}

/-- one event of bus `b` in transit -/
abbrev one (b : BId) : BId → Nat := fun b' => if b = b' then 1 else 0

theorem one_self (b : BId) : one b b = 1 := if_pos rfl
theorem one_ne {b b' : BId} (h : b' ≠ b) : one b b' = 0 := if_neg h.symm

/-- the fields the invariant reads -/
def reads : Fld → Bool
  | .bus .queue | .bus .unfinished | .bus .rl | .act | .inst .took | .nb => true
  | _ => false

theorem agree (hI : Acc w k) (h : Agree reads w w') : Acc w' k := by
  intro b ps hn
  have ha : ∀ p, actOn w' b p = actOn w b p := fun p => by unfold actOn; rw [show w'.act = w.act from h .act rfl]
  have ht : ∀ i, tookOn w' b i = tookOn w b i := fun i => by unfold tookOn; rw [h (.inst .took) rfl i]
  have hh : holds w' b = holds w b := by funext p; unfold holds; simp only [ha, ht]
  rw [hh, h (.bus .queue) rfl b, h (.bus .unfinished) rfl b, h (.bus .rl) rfl b, h .nb rfl]
  exact hI b ps hn

theorem setEv {e : EId} {x : Ev} (hI : Acc w k) : Acc (w.setEv e x) k := hI
theorem setLock {l : Option BId} (hI : Acc w k) : Acc (w.setLock l) k := hI
theorem setStack {l : List IId} (hI : Acc w k) : Acc (w.setStack l) k := hI
theorem setNi {n : Nat} (hI : Acc w k) : Acc (w.setNi n) k := hI

theorem mono (hI : Acc w k) (h : ∀ b, k' b ≤ k b) : Acc w k' := fun b ps hn =>
  Nat.le_trans (by have := h b; omega) (hI b ps hn)

/-- bus `b` is replaced by `x`: `hx` is the inequality of `b` before and after, added crosswise (new left side + old bound ≤
    old left side + new bound), so that no subtraction appears -/
theorem setBus {b : BId} {x : Bus} (hI : Acc w k) (hk : ∀ b', b' ≠ b → k' b' ≤ k b')
    (hx : x.queue.length + (if x.rl.isTook then 1 else 0) + k' b + (if b < w.nb then (w.bus b).unfinished else 0) ≤
      (w.bus b).queue.length + (if (w.bus b).rl.isTook then 1 else 0) + k b + (if b < w.nb then x.unfinished else 0)) :
    Acc (w.setBus b x) k' := by
  intro b' ps hn
  have hI' := hI b' ps hn
  show _ + _ + (ps.map (holds w b')).sum + _ ≤ if b' < w.nb then _ else 0
  by_cases hb : b' = b
  · subst hb
    rw [setBus_bus_same]
    omega
  · rw [setBus_bus_other _ _ _ _ hb]
    have := hk b' hb
    omega

/-- the run loop of a bus leaves `step()` or its loop, whether or not it had an event in hand -/
theorem leave {b : BId} {x : Bus} (hI : Acc w k) (hq : x.queue = (w.bus b).queue) (hu : x.unfinished = (w.bus b).unfinished)
    (hr : x.rl.isTook = false) : Acc (w.setBus b x) k :=
  hI.setBus (fun _ _ => Nat.le_refl _) (by rw [hq, hu, hr]; simp)

theorem setNb {n : Nat} (hI : Acc w k) (h : w.nb ≤ n) : Acc (w.setNb n) k := by
  intro b ps hn
  have := hI b ps hn
  show _ ≤ if b < n then (w.bus b).unfinished else 0
  by_cases h1 : b < w.nb
  · rw [if_pos h1] at this; rw [if_pos (Nat.lt_of_lt_of_le h1 h)]; exact this
  · rw [if_neg h1] at this; exact Nat.le_trans this (Nat.zero_le _)

/-- executor `p` alone changes what it holds -/
theorem move {p : Proc} (hI : Acc w k) (hbus : w'.bus = w.bus) (hnb : w'.nb = w.nb)
    (hoth : ∀ b q, q ≠ p → holds w' b q = holds w b q) (h : ∀ b, holds w' b p + k' b ≤ holds w b p + k b) : Acc w' k' := by
  intro b ps hn
  rw [hbus, hnb]
  have h' := h b
  by_cases hp : p ∈ ps
  · have := sum_map_update (hoth b) hn hp
    have := hI b ps hn
    omega
  · -- the others hold what they held, and what `p` held is counted when `p` is put in front of them
    have := hI b (p :: ps) (List.nodup_cons.mpr ⟨hp, hn⟩)
    rw [List.map_cons, List.sum_cons] at this
    rw [List.map_congr_left fun q hq => hoth b q fun e => hp (e ▸ hq)]
    omega

theorem setInst {i : IId} {x : Inst} (hI : Acc w k)
    (h : ∀ b, (if tookOn (w.setInst i x) b i then 1 else 0) + k' b ≤ (if tookOn w b i then 1 else 0) + k b) :
    Acc (w.setInst i x) k' :=
  hI.move (p := .inst i) rfl rfl
    (fun b q hq => by
      cases q with
      | inst j =>
        show instOf (w.setInst i x) b j = instOf w b j
        unfold instOf tookOn
        rw [setInst_inst_other _ _ _ _ fun e => hq (congrArg _ e)]
        rfl
      | _ => rfl)
    fun b => by
      unfold holds
      rw [Nat.add_right_comm _ _ (k' b), Nat.add_right_comm _ _ (k b)]
      exact Nat.add_le_add_right (h b) _

theorem setInst_le {i : IId} {x : Inst} (hI : Acc w k) (h : x.took = none ∨ x.took = (w.inst i).took) :
    Acc (w.setInst i x) k :=
  hI.setInst fun b => by
    rcases h with h | h
    · rw [tookOn_none (by rw [setInst_inst_same]; exact h)]; simp
    · unfold tookOn; rw [setInst_inst_same, h]; exact Nat.le_refl _

theorem setAct {p : Proc} {x : Option Act} (hI : Acc w k)
    (h : ∀ b, (if actOn (w.setAct p x) b p then 1 else 0) + k' b ≤ (if actOn w b p then 1 else 0) + k b) :
    Acc (w.setAct p x) k' :=
  hI.move (p := p) rfl rfl (fun b q hq => by unfold holds actOn; rw [setAct_act_other _ _ _ _ hq]; rfl) fun b => by
    unfold holds
    rw [Nat.add_assoc, Nat.add_assoc]
    exact Nat.add_le_add_left (h b) _

/-- an activation that may not be there keeps its bus, in the form the labels have it (`o` is `w.act p` at every use;
    `generalizing := false` keeps `ho` from becoming a second discriminant of the `match`) -/
theorem mapAct {p : Proc} {o : Option Act} {g : Act → Act} (hI : Acc w k) (ho : ∀ A, o = some A → w.act p = some A)
    (hg : ∀ A, (g A).bus = A.bus) :
    Acc (match (generalizing := false) o with | some A => w.setAct p (some (g A)) | none => w) k := by
  split
  · exact hI.setAct fun b => by
      rw [actOn_some (setAct_act_same w p _), actOn_some (ho _ rfl), hg]
      exact Nat.le_refl _
  · exact hI

/-- an event in transit is handed to the activation that `process_event` opens for it -/
theorem peOpen {p : Proc} {b : BId} {e : EId} (hI : Acc w (one b)) : Acc (peOpen w p b e) :=
  (hI.setAct fun b' => by
    rw [actOn_some (setAct_act_same _ p _)]
    simp only [one, beq_iff_eq]
    omega).agree ((peOpen_frame_act w p b e).agree rfl)

/-- the activation of `p`, which is on bus `b`, is closed and the bus's counter decremented (`task_done()`) -/
theorem close {p : Proc} {b : BId} {A : Act} (hI : Acc w) (hA : w.act p = some A) (hb : A.bus = b) :
    Acc ((w.setAct p none).modBus b fun B => { B with unfinished := B.unfinished - 1 }) :=
  Acc.setBus (k := one b)
    (hI.setAct fun b' => by
      rw [actOn_none (setAct_act_same _ p _), actOn_some hA, hb]
      simp)
    (fun _ _ => Nat.zero_le _) (by
      rw [one_self]
      by_cases hb : b < (w.setAct p none).nb <;> simp only [hb, if_true, if_false] <;> omega)

theorem step (hI : Acc w) (l : Label) (hg : guard w l = true) : Acc (apply0 w l) := by
  by_cases hw : touches l reads = false
  · exact hI.agree ((apply0_frame w l).agree hw)
  · cases l <;> first | exact absurd rfl hw | skip
    case newBus b par maxh wal =>
      obtain ⟨hb, _⟩ := guard_all hg
      obtain rfl := eq_of_beq hb
      exact setNb (hI.setBus (fun _ _ => Nat.le_refl _) (by simp [RL.isTook])) (Nat.le_succ _)
    case rlCreate | rlCancelled => exact hI.leave rfl rfl rfl
    case dispatch p b e res =>
      have hf := dispatchHead_frame w p b e
      have h0 : Acc (dFwd (dPath (dParent w (ctxOf w p) e) b e) p) := hI.agree (hf.agree rfl)
      -- a rejected dispatch stops here
      cases res <;> first | exact h0 | skip
      obtain ⟨hb, _⟩ := guard_all hg
      replace hb := of_decide_eq_true hb
      have h1 : Acc (dEnqueue (dFwd (dPath (dParent w (ctxOf w p) e) b e) p) b e) :=
        h0.setBus (fun _ _ => Nat.le_refl _) (by
          rw [hf .nb (by decide), if_pos hb, if_pos hb]; simp; omega)
      exact (h1.agree ((dChild_frame _ _ _).agree rfl)).agree ((cleanup_frame _ _).agree rfl)
    case take p b e =>
      -- the guard: the queue is not empty
      obtain ⟨_, hhead, _⟩ := guard_all hg
      have hq : (w.bus b).queue.tail.length + 1 = (w.bus b).queue.length := by
        cases hq : (w.bus b).queue with
        | nil => simp [hq] at hhead
        | cons a t => rfl
      -- off the queue, then into the hand of the taker
      have h1 : Acc (w.modBus b fun B => { B with queue := B.queue.tail, taken := B.taken ++ [e] }) (one b) :=
        hI.setBus (fun _ hb => Nat.le_of_eq (one_ne hb)) (by rw [one_self]; dsimp only; omega)
      cases p <;> dsimp only [apply0]
      case rl b' => exact h1.setBus (fun _ _ => Nat.zero_le _) (by rw [one_self]; simp [RL.isTook])
      case inst i =>
        exact h1.setInst fun b' => by
          rw [tookOn_some (by rw [setInst_inst_same])]
          simp
      case ext => exact h1.mono fun _ => Nat.zero_le _
    case peBegin p b e =>
      -- the guard: the executor is the run loop and has taken the event, or an instance that took it; out of that hand,
      -- then into the activation
      obtain ⟨-, hp, -⟩ := guard_all hg
      cases p <;> dsimp only [apply0]
      case rl b' =>
        simp only [Bool.and_eq_true, beq_iff_eq] at hp
        exact peOpen (setLock (hI.setBus (fun _ hb => Nat.le_of_eq (one_ne hb)) (by simp [one_self, hp.1.1.2, RL.isTook])))
      case inst i =>
        exact peOpen (hI.setInst fun b' => by
          rw [tookOn_none (by rw [setInst_inst_same]), tookOn_some (eq_of_beq hp)]
          simp)
      case ext => cases hp
    case peRecTrip p b e =>
      cases p <;> dsimp only [apply0]
      case rl b' => exact setLock (hI.leave rfl rfl (isTook_back _))
      case inst i => exact hI.setInst_le (.inl rfl)
      case ext => exact hI
    case hSched p i b e k => exact setStack (setNi (mapAct (setInst_le hI.setEv (.inl rfl)) (fun _ h => h) fun _ => rfl))
    case hFinish i r =>
      have h1 : Acc (finishCore w i r) :=
        setStack (mapAct (setInst_le hI.setEv (.inr rfl)) (fun _ h => h) fun _ => rfl)
      show Acc (applyFinish w i r)
      rw [applyFinish_eq]
      split
      · exact h1.agree ((cancelPendingChildren_frame _ _ _).agree rfl)
      · exact h1
    case walWrite p b e ok =>
      dsimp only [apply0]
      split
      · exact setBus (hI.mapAct (fun _ h => h) fun _ => rfl) (fun _ _ => Nat.le_refl _) (Nat.le_refl _)
      · exact hI.mapAct (fun _ h => h) fun _ => rfl
    case peEnd p b e =>
      -- the guard: the executor has an open activation for this bus
      obtain ⟨hact, _⟩ := guard_all hg
      obtain ⟨A, hA, hAb, _⟩ := actIs_some hact
      have h1 : Acc (peClose w p b e) :=
        ((hI.agree ((completeWalk_frame w e).agree rfl)).agree ((cleanup_frame _ b).agree rfl)).close
          (by rw [cleanup_frame _ b .act (by decide), completeWalk_frame w e .act (by decide)]; exact hA) hAb
      cases p <;> dsimp only [apply0]
      case rl b' =>
        refine Acc.agree ?_ ((rlIdleCheck_frame _ _).agree rfl)
        exact setLock (h1.leave rfl rfl (isTook_back _))
      all_goals exact h1
    case peAbort p b e =>
      have h1 : Acc (w.setAct p none) := hI.setAct fun b' => by
        rw [actOn_none (setAct_act_same w p none)]; simp
      cases p <;> dsimp only [apply0]
      case rl b' => exact setLock (h1.leave rfl rfl rfl)
      all_goals exact h1
    case rlExit b =>
      refine Acc.leave ?_ rfl rfl rfl
      split
      · exact hI.agree ((rlIdleCheck_frame _ _).agree rfl)
      · exact hI
    case rlDropExit b => exact (hI.agree ((rlIdleCheck_frame _ _).agree rfl)).leave rfl rfl rfl
    case hSkip p b e k => exact hI.mapAct (fun _ h => h) fun _ => rfl

theorem init : Acc {} := fun b ps _ => by
  rw [List.sum_eq_zero_iff_forall_eq_nat.mpr fun x hx => by obtain ⟨p, _, rfl⟩ := List.mem_map.mp hx; cases p <;> rfl]
  exact Nat.le_refl _

/-- the instance that speaks of `hand`: the run loop of the bus and the instances that exist -/
theorem hand_le (hI : Acc w) (b : BId) :
    (w.bus b).queue.length + hand w b ≤ if b < w.nb then (w.bus b).unfinished else 0 := by
  have := hI b (.rl b :: (List.range w.ni).map .inst) (List.nodup_cons.mpr
    ⟨fun h => (by obtain ⟨_, _, e⟩ := List.mem_map.mp h; cases e), List.nodup_range.map _ fun _ _ h e => h (Proc.inst.inj e)⟩)
  rw [List.map_cons, List.sum_cons, List.map_map] at this
  unfold hand rlPart
  -- the run loop holds its activation, an instance `instOf`
  change _ + _ + (0 + _ + ((List.range w.ni).map (instOf w b)).sum) + _ ≤ _ at this
  omega

end Acc

theorem acc_reachable {w : World} (hr : Reachable w) : Acc w :=
  hr.induction0 (P := fun w => Acc w) Acc.init (fun _ _ _ h => h) fun _ l _ hI hg => hI.step l hg

namespace Thm

/-- **C15 (queue accounting), for every reachable state**: on every bus, the events still queued plus the events some
    executor holds in hand (taken off the queue and `task_done()` not yet called: a run loop that took one, an awaiting
    handler that took one inline, every open activation) never exceed the queue's unfinished-task counter. -/
theorem C15_unfinished_counts_at_least_everything_queued_or_in_hand (w : World) (hr : Reachable w) (b : BId) :
    (w.bus b).queue.length + hand w b ≤ (w.bus b).unfinished := by
  have := (acc_reachable hr).hand_le b
  split at this <;> omega

/-- **C15 (soundness of the first wait of `wait_until_idle`)**: whenever the unfinished-task counter of a bus is 0 — the
    only moment `queue.join()` can be released — nothing is queued on that bus, its run loop holds no event, and no
    activation of an event of that bus is open anywhere (run loop or inline in any handler). -/
theorem C15_join_is_released_only_when_nothing_is_queued_or_in_hand (w : World) (hr : Reachable w) (b : BId)
    (h0 : (w.bus b).unfinished = 0) :
    (w.bus b).queue = [] ∧ (w.bus b).rl.isTook = false ∧ actOn w b (.rl b) = false ∧
    ∀ i, i < w.ni → tookOn w b i = false ∧ actOn w b (.inst i) = false := by
  have h := C15_unfinished_counts_at_least_everything_queued_or_in_hand w hr b
  rw [h0] at h
  obtain ⟨hq, hh⟩ := Nat.add_eq_zero_iff.mp (Nat.le_zero.mp h)
  obtain ⟨hrl, hs⟩ := Nat.add_eq_zero_iff.mp hh
  have off : ∀ {c : Bool}, (if c then 1 else 0) = 0 → c = false := fun {c} hc => by cases c <;> first | rfl | cases hc
  refine ⟨List.eq_nil_of_length_eq_zero hq, off (Nat.add_eq_zero_iff.mp hrl).1, off (Nat.add_eq_zero_iff.mp hrl).2, fun i hi => ?_⟩
  have hz := List.sum_eq_zero_iff_forall_eq_nat.mp hs _ (List.mem_map_of_mem (List.mem_range.mpr hi))
  exact ⟨off (Nat.add_eq_zero_iff.mp hz).1, off (Nat.add_eq_zero_iff.mp hz).2⟩

end Thm
end Bubus
