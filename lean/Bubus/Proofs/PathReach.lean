/-
  Bubus.Proofs.PathReach — C07: a bus only ever holds, takes and processes events whose path names it.  Invariant of all
  reachable states: every event ever enqueued on a bus has that bus in its `event_path` (the path entry is written by the
  dispatch that enqueues the event and is never removed).  With the FIFO invariant (what a bus took it had enqueued) and the
  WAL invariant (what an executor processes its bus took) it follows that every open activation - by a run loop or by an
  awaiting handler's inline loop - is for an event whose path lists the bus of the activation.
-/
import Bubus.Proofs.Wal
import Bubus.Proofs.PathInv
namespace Bubus

/-- every event ever enqueued on a bus exists and lists that bus in its path -/
def EnqPath (w : World) : Prop := ∀ b e, e ∈ (w.bus b).enq → e < w.ne ∧ b ∈ (w.ev e).path

theorem enqPath_apply0 (w : World) (l : Label) (hg : guard w l = true) (hI : EnqPath w) : EnqPath (apply0 w l) := by
  have hne := apply0_ne_mono w l
  -- what was enqueued stays so: events are never removed and paths only grow
  have old : ∀ b e, e ∈ (w.bus b).enq → e < (apply0 w l).ne ∧ b ∈ ((apply0 w l).ev e).path := fun b e he =>
    have ⟨h1, h2⟩ := hI b e he
    ⟨Nat.lt_of_lt_of_le h1 hne, (apply0_evLe w l e h1 hg).path.subset h2⟩
  intro b e he
  rw [apply0_enq] at he
  split at he
  · -- `newBus`
    split at he
    · cases he
    · exact old b e he
  · -- an accepted dispatch
    split at he
    · rename_i hb; subst hb
      rcases List.mem_append.mp he with he | he
      · exact old b e he
      · -- the new entry: the event exists by the guard, and this dispatch has just put `b` into its path
        obtain rfl := List.mem_singleton.mp he
        obtain ⟨_, he', _⟩ := guard_all hg
        refine ⟨Nat.lt_of_lt_of_le (of_decide_eq_true he') hne, ?_⟩
        rw [apply0_path]
        dsimp only
        rw [dPath_path_same]
        split
        · rename_i hc; exact List.contains_iff_mem.mp hc
        · exact List.mem_append_right _ (List.mem_singleton.mpr rfl)
    · exact old b e he
  · exact old b e he

theorem enqPath_reachable {w : World} (hr : Reachable w) : EnqPath w :=
  hr.induction0 (fun _ _ h => by cases h) (fun _ _ _ h => h) fun w l _ hI hg => enqPath_apply0 w l hg hI

/-- what an executor processes was enqueued on the bus of the activation: the bus took it (WAL invariant), and what a bus
    took it had enqueued (FIFO invariant) -/
theorem act_enqueued {w : World} (hr : Reachable w) {p : Proc} {A : Act} (h : w.act p = some A) :
    A.ev ∈ (w.bus A.bus).enq :=
  (Thm.C02_taken_is_a_prefix_of_enqueued w hr A.bus).subset (Thm.C14_an_activation_processes_only_what_its_bus_took w hr p A h)

namespace Thm

/-- **C07, for every reachable state**: every event a bus has ever had in its queue (by dispatch or by forwarding) lists that
    bus in its `event_path`. -/
theorem C07_every_event_enqueued_on_a_bus_lists_that_bus_in_its_path (w : World) (hr : Reachable w) (b : BId) (e : EId)
    (he : e ∈ (w.bus b).enq) : b ∈ (w.ev e).path :=
  (enqPath_reachable hr b e he).2

/-- **C07** ("event_path lists exactly those buses"): corollary - whatever an executor is processing (a run loop, or an awaiting
    handler's inline loop), in every reachable state the bus of the activation is in the path of its event: no bus processes
    an event that did not reach it through a dispatch or a forward that recorded it. -/
theorem C07_a_bus_processes_only_events_whose_path_lists_it (w : World) (hr : Reachable w) (p : Proc) (A : Act)
    (h : w.act p = some A) : A.bus ∈ (w.ev A.ev).path :=
  (enqPath_reachable hr _ _ (act_enqueued hr h)).2

end Thm
end Bubus
