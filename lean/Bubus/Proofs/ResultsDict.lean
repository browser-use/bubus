/-
  Bubus.Proofs.ResultsDict — C12, the two dictionary accessors. `event_results_by_handler_name` is a view of the included
  results: one entry per handler name (no duplicates), exactly the names of the included results — nothing invented,
  nothing dropped — for all result lists, include filters and flags; `event_results_flat_dict` never invents a key:
  whatever the flags, a returned dictionary has no key twice and every key comes from the dict value of some included
  result. The dict semantics both rest on (`upsert`) is developed first, over arbitrary key and value types.
-/
import Bubus.Proofs.Results
namespace Bubus.Thm
open Bubus Bubus.Results

section Upsert
variable {κ ν : Type} [BEq κ] [LawfulBEq κ]

/-- `d[k] = v` on an insertion-ordered dictionary: a present key keeps its position and gets the new value, a new key
    goes to the end. `byHandlerName` folds this over the included results, `mergeDict` over the pairs of a dict value
    (both spell it out as a lambda on pairs, equal to `upsert` by unfolding: `mergeDict m kvs` is `kvs.foldl upsert m`). -/
def upsert (acc : List (κ × ν)) (kv : κ × ν) : List (κ × ν) :=
  if acc.any (·.1 == kv.1) then acc.map fun x => if x.1 == kv.1 then (x.1, kv.2) else x
  else acc ++ [kv]

theorem upsert_of_mem {acc : List (κ × ν)} {kv : κ × ν} (h : kv.1 ∈ acc.map (·.1)) :
    upsert acc kv = acc.map fun x => if x.1 == kv.1 then (x.1, kv.2) else x :=
  if_pos (by simpa only [List.any_eq_true, beq_iff_eq, List.mem_map] using h)

theorem upsert_of_not_mem {acc : List (κ × ν)} {kv : κ × ν} (h : kv.1 ∉ acc.map (·.1)) :
    upsert acc kv = acc ++ [kv] :=
  if_neg (by simpa only [List.any_eq_true, beq_iff_eq, List.mem_map] using h)

theorem keys_upsert (acc : List (κ × ν)) (kv : κ × ν) :
    (upsert acc kv).map (·.1) = if kv.1 ∈ acc.map (·.1) then acc.map (·.1) else acc.map (·.1) ++ [kv.1] := by
  split
  · rename_i h
    rw [upsert_of_mem h, List.map_map]
    refine List.map_congr_left fun x _ => ?_
    dsimp only [Function.comp]
    split <;> rfl
  · rename_i h
    rw [upsert_of_not_mem h, List.map_append]
    rfl

theorem mem_keys_upsert (acc : List (κ × ν)) (kv : κ × ν) (k : κ) :
    k ∈ (upsert acc kv).map (·.1) ↔ k ∈ acc.map (·.1) ∨ k = kv.1 := by
  rw [keys_upsert]
  split
  · rename_i h
    exact ⟨.inl, fun hk => hk.elim id (· ▸ h)⟩
  · rw [List.mem_append, List.mem_singleton]

theorem nodup_keys_upsert (acc : List (κ × ν)) (kv : κ × ν) (hn : (acc.map (·.1)).Nodup) :
    ((upsert acc kv).map (·.1)).Nodup := by
  rw [keys_upsert]
  split
  · exact hn
  · exact nodup_concat hn ‹_›

theorem nodup_keys_foldl_upsert (kvs acc : List (κ × ν)) (hn : (acc.map (·.1)).Nodup) :
    ((kvs.foldl upsert acc).map (·.1)).Nodup := by
  induction kvs generalizing acc with
  | nil => exact hn
  | cons kv kvs ih => exact ih _ (nodup_keys_upsert acc kv hn)

theorem mem_keys_foldl_upsert (kvs acc : List (κ × ν)) (k : κ) :
    k ∈ (kvs.foldl upsert acc).map (·.1) ↔ k ∈ acc.map (·.1) ∨ k ∈ kvs.map (·.1) := by
  induction kvs generalizing acc with
  | nil => exact ⟨.inl, fun h => h.elim id (fun h => absurd h List.not_mem_nil)⟩
  | cons kv kvs ih => rw [List.foldl_cons, ih, mem_keys_upsert, List.map_cons, List.mem_cons, or_assoc]

theorem mem_upsert_self (acc : List (κ × ν)) (kv : κ × ν) : kv ∈ upsert acc kv := by
  by_cases h : kv.1 ∈ acc.map (·.1)
  · rw [upsert_of_mem h]
    obtain ⟨x, hx, hk⟩ := List.mem_map.mp h
    exact List.mem_map.mpr ⟨x, hx, by rw [if_pos (beq_of_eq hk), hk]⟩
  · rw [upsert_of_not_mem h]
    exact List.mem_append_right _ (List.mem_singleton.mpr rfl)

theorem mem_upsert_of_ne (acc : List (κ × ν)) (kv x : κ × ν) (hx : x ∈ acc) (hne : x.1 ≠ kv.1) :
    x ∈ upsert acc kv := by
  by_cases h : kv.1 ∈ acc.map (·.1)
  · rw [upsert_of_mem h]
    exact List.mem_map.mpr ⟨x, hx, if_neg (mt eq_of_beq hne)⟩
  · rw [upsert_of_not_mem h]
    exact List.mem_append_left _ hx

theorem mem_foldl_upsert_of_ne (kvs acc : List (κ × ν)) (x : κ × ν) (hx : x ∈ acc)
    (hne : ∀ kv ∈ kvs, kv.1 ≠ x.1) : x ∈ kvs.foldl upsert acc := by
  induction kvs generalizing acc with
  | nil => exact hx
  | cons kv kvs ih =>
    exact ih _ (mem_upsert_of_ne acc kv x hx (hne kv List.mem_cons_self).symm)
      (fun y hy => hne y (List.mem_cons_of_mem _ hy))

end Upsert

theorem byHandlerName_ok (rs : List Res) (incl : Res → Bool) (ra rn : Bool) (l : List (Nat × Val))
    (h : byHandlerName rs incl ra rn = .ok l) :
    l = ((rs.filter incl).map fun r => (r.name, r.value)).foldl upsert [] := by
  rw [List.foldl_map]
  exact filtered_map_ok h

/-- C12: `event_results_by_handler_name` has one entry per handler name: no key twice. -/
theorem C12_by_handler_name_has_one_entry_per_name (rs : List Res) (incl : Res → Bool) (ra rn : Bool)
    (l : List (Nat × Val)) (h : byHandlerName rs incl ra rn = .ok l) : (l.map (·.1)).Nodup := by
  rw [byHandlerName_ok rs incl ra rn l h]
  exact nodup_keys_foldl_upsert _ [] List.nodup_nil

/-- C12: the keys of `event_results_by_handler_name` are exactly the handler names of the included results: no name
    invented, none dropped. -/
theorem C12_by_handler_name_keys_are_the_included_names (rs : List Res) (incl : Res → Bool) (ra rn : Bool)
    (l : List (Nat × Val)) (h : byHandlerName rs incl ra rn = .ok l) (k : Nat) :
    k ∈ l.map (·.1) ↔ ∃ r ∈ rs, incl r = true ∧ r.name = k := by
  rw [byHandlerName_ok rs incl ra rn l h, mem_keys_foldl_upsert]
  simp only [List.map_nil, List.not_mem_nil, false_or, List.map_map, List.mem_map, List.mem_filter, Function.comp,
    and_assoc]

/-- C12: under one handler name `event_results_by_handler_name` holds the value of the last included result with
    that name (in handler order) — the value recorded for that handler, not another one. -/
theorem C12_by_handler_name_holds_the_last_value_of_each_name (rs : List Res) (incl : Res → Bool) (ra rn : Bool)
    (l : List (Nat × Val)) (h : byHandlerName rs incl ra rn = .ok l) (pre post : List Res) (r : Res)
    (hsplit : rs.filter incl = pre ++ r :: post) (hlast : ∀ x ∈ post, x.name ≠ r.name) :
    (r.name, r.value) ∈ l := by
  rw [byHandlerName_ok rs incl ra rn l h, hsplit, List.map_append, List.map_cons, List.foldl_append, List.foldl_cons]
  refine mem_foldl_upsert_of_ne _ _ _ (mem_upsert_self _ _) fun kv hkv => ?_
  obtain ⟨x, hx, rfl⟩ := List.mem_map.mp hkv
  exact hlast x hx

/-- non-vacuity: two handlers share the name 7; the later value wins, the key keeps its first position -/
example : byHandlerName [{ hid := 1, name := 7, status := .completed, value := .int 4 },
      { hid := 2, name := 8, status := .completed, value := .int 5 },
      { hid := 3, name := 7, status := .completed, value := .int 6 }] defaultInclude false true =
    .ok [(7, .int 6), (8, .int 5)] := by
  rfl

/-- a returned flat dict holds the pairs of the dict values of the included results, inserted one by one in handler order -/
theorem flatDict_ok (rs : List Res) (incl : Res → Bool) (ra rn rc : Bool) (m : List (String × Int))
    (h : flatDict rs incl ra rn rc = .ok m) :
    m = ((rs.filter fun r => r.value.isDict && incl r).flatMap dictOf).foldl upsert [] := by
  rw [flatDict_eq] at h
  rw [List.foldl_flatMap]
  rcases foldl_dictStep rc (rs.filter fun r => r.value.isDict && incl r) [] with hm | ⟨_, he⟩
  · exact Except.ok.inj ((filtered_bind_ok h).symm.trans hm)
  · cases (filtered_bind_ok h).symm.trans he

/-- C12: whatever the flags, a dictionary returned by `event_results_flat_dict` has no key twice, and every key of it
    is a key of the dict value of some included result: nothing is invented. -/
theorem C12_flat_dict_invents_no_key (rs : List Res) (incl : Res → Bool) (ra rn rc : Bool) (m : List (String × Int))
    (h : flatDict rs incl ra rn rc = .ok m) :
    (m.map (·.1)).Nodup ∧
    ∀ k, k ∈ m.map (·.1) → ∃ r ∈ rs, incl r = true ∧ ∃ kvs, r.value = .dict kvs ∧ k ∈ kvs.map (·.1) := by
  rw [flatDict_ok rs incl ra rn rc m h]
  refine ⟨nodup_keys_foldl_upsert _ [] List.nodup_nil, fun k hk => ?_⟩
  obtain ⟨kv, hkv, rfl⟩ := List.mem_map.mp (((mem_keys_foldl_upsert _ [] k).mp hk).resolve_left List.not_mem_nil)
  obtain ⟨r, hr, hkvr⟩ := List.mem_flatMap.mp hkv
  obtain ⟨hr1, hr2⟩ := List.mem_filter.mp hr
  refine ⟨r, hr1, ((Bool.and_eq_true _ _).mp hr2).2, ?_⟩
  unfold dictOf at hkvr
  split at hkvr
  · exact ⟨_, ‹_›, List.mem_map_of_mem hkvr⟩
  · cases hkvr

/-- non-vacuity: the second dict overwrites key "a" (no `raise_if_conflicts`) -/
example : flatDict [{ hid := 1, name := 1, status := .completed, value := .dict [("a", 1), ("b", 2)] },
      { hid := 2, name := 2, status := .completed, value := .dict [("a", 3)] }] defaultInclude false true false =
    .ok [("a", 3), ("b", 2)] := by
  rfl

end Bubus.Thm
