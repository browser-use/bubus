/-
  Bubus.Proofs.MutexFrame — the ways a transition changes what the C06 chain invariant reads, each with the reason why the
  invariant survives it: the innermost executor, while it runs no handler, changes what is its own - state, event in hand,
  activation, lock (`MInv.idle`, mostly used in the forms `MInv.top_state` and `MInv.close`); it creates a handler instance
  (`MInv.push`); the innermost instance finishes (`MInv.pop`). The new state is described by `Agree` for the fields it
  leaves alone and, for the fields it writes, by what is written where: the one instance that is set, the one executor
  whose list of unfinished handlers changes. What the invariant says of a single instance (`InstOk`) is shown for that one
  instance and carried over for every other one by `InstOk.congr`. (`World.skel` names the components of the state the
  invariant reads; no proof below goes through it.)
-/
import Bubus.Proofs.Mutex
namespace Bubus

/-- instances, activations, lock, handler stack and the buses' parallel flags -/
def World.skel (w : World) : (IId → Inst) × (Proc → Option Act) × Option BId × List IId × Nat × (BId → Bool) :=
  (w.inst, w.act, w.lock, w.stack, w.ni, fun b => (w.bus b).parallel)

@[simp] theorem setEv_skel (w : World) (e : EId) (x : Ev) : (w.setEv e x).skel = w.skel := rfl
@[simp] theorem modEv_skel (w : World) (e : EId) (f : Ev → Ev) : (w.modEv e f).skel = w.skel := rfl
@[simp] theorem setNow_skel (w : World) (t : Nat) : (w.setNow t).skel = w.skel := rfl
@[simp] theorem setNb_skel (w : World) (t : Nat) : (w.setNb t).skel = w.skel := rfl
@[simp] theorem setNe_skel (w : World) (t : Nat) : (w.setNe t).skel = w.skel := rfl

variable {w w' : World}

/-- what every move of an executor leaves alone -/
def MInv.moveKeeps : Fld → Bool
  | .bus .parallel | .inst .exec | .stack | .ni => true
  | _ => false

/-- The innermost executor `p`, while it runs no handler (its activation is closed, or open without an unfinished handler,
    before and after), changes what is its own: its activation; a run loop, the lock with it; an instance, its state (it
    stays live) and the event it holds. Every other instance keeps its coarse state and the event it holds. -/
theorem MInv.idle (hI : MInv w) (ha : Agree MInv.moveKeeps w w') (p : Proc)
    (hidle : ∀ x, runOf w p ≠ some [x]) {r : Option (List IId)} (hrun : ∀ q, runOf w' q = if q = p then r else runOf w q)
    (hr : ∀ l, r = some l → l = [])
    (hinst : ∀ j, .inst j ≠ p → cs (w'.inst j).st = cs (w.inst j).st ∧ (w'.inst j).took = (w.inst j).took)
    (hp : (∃ b, p = .rl b ∧ (∀ b', w.lock = some b' → b' = b) ∧ ((w'.act p).isSome → w'.lock = some b)) ∨
      ∃ i, p = .inst i ∧ w'.lock = w.lock ∧ cs (w.inst i).st ≠ .fin ∧ cs (w'.inst i).st ≠ .fin ∧
        ((w'.act p).isSome ∨ (w'.inst i).took.isSome → cs (w'.inst i).st = .wait)) : MInv w' := by
  obtain ⟨hpar, hexec, hstack, hni, _⟩ := ha.all [.bus .parallel, .inst .exec, .stack, .ni]
  have hoff : ∀ q, q ≠ p → runOf w' q = runOf w q := fun q hq => by rw [hrun, if_neg hq]
  have hsome : ∀ q, q ≠ p → (w'.act q).isSome → (w.act q).isSome := fun q hq hs => by
    rw [← runOf_isSome, hoff q hq, runOf_isSome] at hs; exact hs
  have hnone : ∀ q, q ≠ p → w.act q = none → w'.act q = none := fun q hq => eq_none_of_isSome_imp (hsome q hq)
  have hothers : ∀ j, .inst j ≠ p → InstOk w' j := fun j hj =>
    (hI.instOk j).congr (by rw [hstack]) (hinst j hj).1 (hsome _ hj) (hinst j hj).2 fun h => hni ▸ h
  have hrunLive : ∀ q l, runOf w' q = some l → ∀ x ∈ l, x ∈ w'.stack ∧ (w'.inst x).exec = q := by
    intro q l hl x hx
    by_cases hq : q = p
    · rw [hrun, if_pos hq] at hl; rw [hr l hl] at hx; cases hx
    · rw [hoff q hq] at hl; rw [hstack, hexec]; exact hI.runLive q l hl x hx
  have hserial := fun b => (hpar b).trans (hI.serial b)
  have hnodup : w'.stack.Nodup := by rw [hstack]; exact hI.nodup
  -- an executor that runs a handler is not `p`
  have hchain : (∀ b, w.lock = some b → .rl b ≠ p → w'.lock = some b) → Chain w' w'.stack := fun hlock => by
    rw [hstack]
    exact hI.chain.congr (fun x _ => hexec x) (fun q x _ hx => by rw [hoff q fun hq => hidle x (hq ▸ hx)]; exact hx)
      (fun b x hx hl => hlock b hl fun hq => hidle x (hq ▸ hx)) fun j x hx => (hinst j fun hq => hidle x (hq ▸ hx)).1
  rcases hp with ⟨b, rfl, hlk, hlk'⟩ | ⟨i, rfl, hlk, hlive, hlive', hw⟩
  · refine .of_instOk hserial (fun j => hothers j nofun) hnodup (hchain fun b' hl hb' => absurd (congrArg _ (hlk b' hl)) hb')
      (fun b' hb' => ?_) (hnone .ext nofun hI.actExt) hrunLive
    by_cases hbb : b' = b
    · subst hbb; exact hlk' hb'
    · exact absurd (hlk b' (hI.actRl b' (hsome _ (fun hq => hbb (by injection hq)) hb'))) hbb
  · refine .of_instOk hserial (fun j => ?_) hnodup (hchain fun _ hl _ => hlk ▸ hl)
      (fun b hb => by rw [hlk]; exact hI.actRl b (hsome (.rl b) nofun hb)) (hnone .ext nofun hI.actExt) hrunLive
    by_cases hji : j = i
    · subst hji
      exact ⟨iff_of_true (by rw [hstack]; exact (hI.mem j).mpr hlive) hlive', fun h => hw (.inl h), fun h => hw (.inr h),
        fun hj => absurd (hI.fresh j (hni ▸ hj)).1 hlive⟩
    · exact hothers j fun hq => hji (by injection hq)

/-- the innermost live instance, which has no inline activation open, changes its state and stays live -/
theorem MInv.top_state (hI : MInv w) (ha : Agree (fun f => MInv.moveKeeps f || f matches .act) w w')
    (hlock : w'.lock = w.lock) (i : IId) (x : Inst) (hinst : w'.inst = (w.setInst i x).inst) (hact : w.act (.inst i) = none)
    (hlive : cs (w.inst i).st ≠ .fin) (hlive' : cs x.st ≠ .fin) (htook : x.took = none ∨ cs x.st = .wait) : MInv w' := by
  have hactEq : w'.act = w.act := ha .act rfl
  have hrun : runOf w (.inst i) = none := (runOf_eq_none _ _).mpr hact
  refine hI.idle (r := none) (fun f hf => ha f ((Bool.or_eq_true _ _).mpr (.inl hf))) (.inst i) (fun x hx => by rw [hrun] at hx; cases hx) (fun q => ?_) nofun
    (fun j hj => ?_) (.inr ⟨i, rfl, hlock, hlive, ?_⟩)
  · unfold runOf; rw [hactEq]; split
    · rename_i hq; rw [hq, hact]; rfl
    · rfl
  · rw [hinst, setInst_inst_other _ _ _ _ fun hji => hj (by rw [hji])]; exact ⟨rfl, rfl⟩
  · rw [hinst, setInst_inst_same, hactEq, hact]
    exact ⟨hlive', fun h => h.elim nofun fun ht => htook.resolve_left fun hn => by rw [hn] at ht; cases ht⟩

/-- the executor `p` closes its activation, which holds no unfinished handler; a run loop gives back the lock with it -/
theorem MInv.close (hI : MInv w) (ha : Agree (fun f => MInv.moveKeeps f || f matches .inst .st | .inst .took) w w') (p : Proc)
    (hp : runOf w p = some []) (hrun : ∀ q, runOf w' q = if q = p then none else runOf w q)
    (hlock : ∀ i, p = .inst i → w'.lock = w.lock) : MInv w' := by
  have hsome : (w.act p).isSome := by rw [← runOf_isSome, hp]; rfl
  obtain ⟨hst, htook, _⟩ := ha.all [.inst .st, .inst .took]
  refine hI.idle (fun f hf => ha f ((Bool.or_eq_true _ _).mpr (.inl hf))) p (fun x hx => by rw [hp] at hx; cases hx) hrun nofun
    (fun j _ => ⟨by rw [hst], htook j⟩) ?_
  cases p with
  | rl b =>
    exact .inl ⟨b, rfl, fun b' hb' => by rw [hI.actRl b hsome] at hb'; injection hb' with hb'; exact hb'.symm,
      fun hs => by rw [← runOf_isSome, hrun, if_pos rfl] at hs; cases hs⟩
  | inst i =>
    have hw := hI.actInst i hsome
    exact .inr ⟨i, rfl, hlock i rfl, by rw [hw]; decide, by rw [hst, hw]; decide, fun _ => by rw [hst]; exact hw⟩
  | ext => rw [hI.actExt] at hsome; cases hsome

/-- the executor `p`, whose activation holds no unfinished handler, creates the handler instance `w.ni` -/
theorem MInv.push (hI : MInv w) (ha : Agree (· matches .bus .parallel | .lock) w w') (p : Proc) (hp : runOf w p = some [])
    (hstack : w'.stack = w.ni :: w.stack) (hni : w'.ni = w.ni + 1)
    (x : Inst) (hinst : w'.inst = (w.setInst w.ni x).inst) (hx : x.exec = p ∧ cs x.st = .busy ∧ x.took = none)
    (hrun : ∀ q, runOf w' q = if q = p then (runOf w q).map (· ++ [w.ni]) else runOf w q) : MInv w' := by
  have hoff : ∀ q, q ≠ p → runOf w' q = runOf w q := fun q hq => by rw [hrun, if_neg hq]
  have hp' : runOf w' p = some [w.ni] := by rw [hrun, if_pos rfl, hp]; rfl
  have hold : ∀ j, j ≠ w.ni → w'.inst j = w.inst j := fun j hj => by rw [hinst]; exact if_neg hj
  have hnew : (w'.inst w.ni).exec = p ∧ cs (w'.inst w.ni).st = .busy ∧ (w'.inst w.ni).took = none := by
    rw [hinst, setInst_inst_same]; exact hx
  obtain ⟨hpar, hlock, _⟩ := ha.all [.bus .parallel, .lock]
  obtain ⟨fi1, fi2, _⟩ := hI.fresh w.ni (Nat.le_refl _)
  have hinot : w.ni ∉ w.stack := fun hm => (hI.mem _).mp hm fi1
  have hne : ∀ x, x ∈ w.stack → x ≠ w.ni := fun x hx hxi => hinot (hxi ▸ hx)
  have hpsome : (w.act p).isSome := by rw [← runOf_isSome, hp]; rfl
  have hact := isSome_of_runOf_map hrun
  have hinn := innermost w hI p hp
  refine .of_instOk (fun b => (hpar b).trans (hI.serial b)) (fun j => ?instOk)
    (by rw [hstack]; exact List.nodup_cons.mpr ⟨hinot, hI.nodup⟩) ?chain
    (fun b hb => by rw [hlock]; exact hI.actRl b (hact _ ▸ hb)) (eq_none_of_isSome_eq (hact _) hI.actExt) ?runLive
  case instOk =>
    by_cases hj : j = w.ni
    -- the new instance is on the stack and executing, with nothing in hand
    · subst hj
      exact ⟨iff_of_true (hstack ▸ List.mem_cons_self) (by rw [hnew.2.1]; decide), fun hs => (by rw [hact, fi2] at hs; cases hs),
        fun hs => (by rw [hnew.2.2] at hs; cases hs), fun hj => absurd (hni ▸ hj) (Nat.not_succ_le_self _)⟩
    · exact (hI.instOk j).congr (by rw [hstack, List.mem_cons, or_iff_right hj]) (by rw [hold j hj]) (fun hs => hact _ ▸ hs)
        (by rw [hold j hj]) fun h => Nat.le_of_succ_le (by rw [hni] at h; exact h)
  case chain =>
    -- the old chain is untouched: an executor that runs a handler is neither `p` nor the new instance
    have hc : Chain w' w.stack := hI.chain.congr (fun x hx => by rw [hold x (hne x hx)])
      (fun q x _ hx => by rw [hoff q fun hq => by rw [hq, hp] at hx; cases hx]; exact hx)
      (fun b _ _ hl => by rw [hlock]; exact hl)
      fun j x hx => by rw [hold j fun hj => by rw [hj, (runOf_eq_none _ _).mpr fi2] at hx; cases hx]
    rw [hstack]
    cases p with
    | ext => exact hinn.elim
    | rl b =>
      rw [show w.stack = [] from hinn]
      exact ⟨b, hnew.1, by rw [hlock]; exact hI.actRl b hpsome, hp'⟩
    | inst j =>
      obtain ⟨rest, hs⟩ : ∃ rest, w.stack = j :: rest := hinn
      rw [hs] at hc ⊢
      exact ⟨hnew.1, hp', by rw [hold j (hne j (by rw [hs]; exact List.mem_cons_self))]; exact hI.actInst j hpsome, hc⟩
  case runLive =>
    intro q l hl x hx
    rw [hstack]
    by_cases hq : q = p
    · subst hq
      rw [hp'] at hl; injection hl with hl; subst hl
      rw [List.mem_singleton.mp hx]
      exact ⟨List.mem_cons_self, hnew.1⟩
    · rw [hoff q hq] at hl
      obtain ⟨h1, h2⟩ := hI.runLive q l hl x hx
      exact ⟨List.mem_cons_of_mem _ h1, by rw [hold x (hne x h1)]; exact h2⟩

/-- the innermost live instance finishes: it leaves the stack and the activation of its executor -/
theorem MInv.pop (hI : MInv w) (ha : Agree (· matches .bus .parallel | .inst .exec | .inst .took | .lock | .ni) w w') (i : IId)
    (hbusy : cs (w.inst i).st = .busy) (hstack : w'.stack = w.stack.erase i)
    (x : Inst) (hinst : w'.inst = (w.setInst i x).inst) (hx : cs x.st = .fin)
    (hrun : ∀ q, runOf w' q = if q = (w.inst i).exec then (runOf w q).map (·.erase i) else runOf w q) : MInv w' := by
  have hoff : ∀ q, q ≠ (w.inst i).exec → runOf w' q = runOf w q := fun q hq => by rw [hrun, if_neg hq]
  have hold : ∀ j, j ≠ i → (w'.inst j).st = (w.inst j).st := fun j hj => by rw [hinst, setInst_inst_other _ _ _ _ hj]
  have hfin : cs (w'.inst i).st = .fin := by rw [hinst, setInst_inst_same]; exact hx
  obtain ⟨hpar, hexec, htook, hlock, hni, _⟩ := ha.all [.bus .parallel, .inst .exec, .inst .took, .lock, .ni]
  have hlive : cs (w.inst i).st ≠ .fin := by rw [hbusy]; decide
  obtain ⟨rest, hst⟩ := hI.top_of_busy hbusy
  obtain ⟨hirest, hndrest⟩ : i ∉ rest ∧ rest.Nodup := List.nodup_cons.mp (hst ▸ hI.nodup)
  have hne : ∀ x, x ∈ rest → x ≠ i := fun x hx hxi => hirest (hxi ▸ hx)
  rw [hst, List.erase_cons_head] at hstack
  have hc := hI.chain
  rw [hst] at hc
  -- the chain says that `i` is the one unfinished handler of its executor's activation
  have hone : runOf w (w.inst i).exec = some [i] := by
    cases rest with
    | nil => obtain ⟨b, h1, _, h3⟩ := hc; rw [h1]; exact h3
    | cons j rest' => rw [hc.1]; exact hc.2.1
  have hp' : runOf w' (w.inst i).exec = some [] := by
    rw [hrun, if_pos rfl, hone]; exact congrArg some (List.erase_cons_head ..)
  have hact := isSome_of_runOf_map hrun
  obtain ⟨hiact, hitook⟩ := hI.idle_of_busy hbusy
  refine .of_instOk (fun b => (hpar b).trans (hI.serial b)) (fun j => ?instOk) (by rw [hstack]; exact hndrest) ?chain
    (fun b hb => by rw [hlock]; exact hI.actRl b (hact _ ▸ hb)) (eq_none_of_isSome_eq (hact _) hI.actExt) ?runLive
  case instOk =>
    by_cases hj : j = i
    -- the finished instance is off the stack; executing, it had nothing in hand
    · subst hj
      have ha' : w'.act (.inst j) = none := eq_none_of_isSome_eq (hact _) hiact
      have ht' : (w'.inst j).took = none := (htook j).trans hitook
      exact ⟨iff_of_false (hstack ▸ hirest) fun h => h hfin, fun hs => (by rw [ha'] at hs; cases hs),
        fun hs => (by rw [ht'] at hs; cases hs), fun _ => ⟨hfin, ha', ht'⟩⟩
    · exact (hI.instOk j).congr (by rw [hstack, hst, List.mem_cons, or_iff_right hj]) (by rw [hold j hj])
        (fun hs => hact _ ▸ hs) (htook j) fun h => hni ▸ h
  case chain =>
    -- an executor that runs a handler of the rest is neither the executor of `i` nor `i`
    rw [hstack]
    refine hc.tail.congr (fun x _ => hexec x) (fun q x hx hq => ?_)
      (fun b _ _ hl => by rw [hlock]; exact hl)
      fun j x hx => by rw [hold j fun hj => by rw [hj, (runOf_eq_none _ _).mpr hiact] at hx; cases hx]
    rw [hoff q fun h => hne x hx ?_]
    · exact hq
    · rw [h, hone] at hq; injection hq with hq; injection hq with hq; exact hq.symm
  case runLive =>
    intro q l hl x hx
    rw [hstack]
    by_cases hq : q = (w.inst i).exec
    · subst hq
      rw [hp'] at hl; injection hl with hl
      rw [← hl] at hx; cases hx
    · rw [hoff q hq] at hl
      obtain ⟨h1, h2⟩ := hI.runLive q l hl x hx
      have hxi : x ≠ i := fun hxi => hq (by rw [← h2, hxi])
      rw [hst, List.mem_cons] at h1
      exact ⟨h1.resolve_left hxi, by rw [hexec]; exact h2⟩

end Bubus
