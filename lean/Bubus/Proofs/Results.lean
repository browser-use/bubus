/-
  Bubus.Proofs.Results — C12: recording a handler's return value (conformance to the declared result type), and the
  accessors as pure views of the recorded results in handler order (`event_result`, `event_results_list`,
  `event_results_by_handler_id`, `event_results_flat_list`, `event_results_flat_dict`), with the flags `raise_if_any` /
  `raise_if_none` / `raise_if_conflicts` honoured exactly — for all result lists and all include filters.
-/
import Bubus.Model.Results
import Bubus.Proofs.Lists
namespace Bubus.Thm
open Bubus Bubus.Results

/-- C12: with a declared type, a value pydantic rejects ends as an error result holding no value. -/
theorem C12_nonconforming_value_is_an_error_without_value (r : Res) (ret : Val)
    (hn : ret.isNone = false) (he : ret.isEvent = false) (hx : ret.isExc = false) :
    (recordReturn r true ret none).status = .error ∧ (recordReturn r true ret none).value = .none := by
  cases ret with
  | none => cases hn
  | event id => cases he
  | exc id => cases hx
  | _ => exact ⟨rfl, rfl⟩

/-- C12: with a declared type, a completed result holds pydantic's validated value, or None, or a forwarded event. -/
theorem C12_completed_value_conforms (r : Res) (ret : Val) (vd : Option Val)
    (hc : (recordReturn r true ret vd).status = .completed) :
    (recordReturn r true ret vd).value = .none ∨ (recordReturn r true ret vd).value.isEvent = true ∨
      vd = some (recordReturn r true ret vd).value := by
  cases ret with
  | none => exact .inl rfl
  | event id => exact .inr (.inl rfl)
  | exc id => cases hc
  | _ =>
    cases vd with
    | some v => exact .inr (.inr rfl)
    | none => cases hc

/-- C12: without a declared type the returned value is stored unchanged (an exception object aside, which is an error). -/
theorem C12_untyped_value_is_stored_unchanged (r : Res) (ret : Val) (vd : Option Val) (hx : ret.isExc = false) :
    (recordReturn r false ret vd).value = ret ∧ (recordReturn r false ret vd).status = .completed := by
  cases ret with
  | exc id => cases hx
  | _ => exact ⟨rfl, rfl⟩

/-- C12 (and the clause of C11 about returned exception objects): an exception object *returned* by a handler is captured as that handler's error result (with that very
    object as the error), whatever the declared type and whatever pydantic would say about it. -/
theorem C12_a_returned_exception_object_is_an_error_result (r : Res) (typed : Bool) (id : Nat) (vd : Option Val) :
    recordReturn r typed (.exc id) vd = { r with status := .error, err := some (.handler id), value := .none } :=
  rfl

/-- C12: `None` and a forwarded event are accepted under every declared type, unvalidated and unchanged. -/
theorem C12_none_and_forwarded_events_are_always_accepted (r : Res) (typed : Bool) (vd : Option Val) (e : Nat) :
    (recordReturn r typed .none vd).status = .completed ∧ (recordReturn r typed .none vd).value = .none ∧
    (recordReturn r typed (.event e) vd).status = .completed ∧ (recordReturn r typed (.event e) vd).value = .event e := by
  cases typed <;> exact ⟨rfl, rfl, rfl, rfl⟩

/-- C12: recording a return value touches nothing but status, value and error of that one result. -/
theorem C12_recording_keeps_handler_identity (r : Res) (typed : Bool) (ret : Val) (vd : Option Val) :
    (recordReturn r typed ret vd).hid = r.hid ∧ (recordReturn r typed ret vd).name = r.name := by
  unfold recordReturn
  repeat' split
  all_goals exact ⟨rfl, rfl⟩

/-- C12: the default `include` selects exactly the completed results that carry a real value: not an error, not None,
    not a forwarded event — and nothing else is left out; in particular falsy values (0, "", [], {}) are included. -/
theorem C12_default_include_is_completed_with_a_real_value (r : Res) :
    defaultInclude r = true ↔
      (r.status = .completed ∧ r.value ≠ .none ∧ r.value.isExc = false ∧ r.err = none ∧ r.value.isEvent = false) := by
  have hnone : r.value.isNone = false ↔ r.value ≠ .none := by cases r.value <;> simp [Val.isNone]
  simp only [defaultInclude, Bool.and_eq_true, Bool.not_eq_true', beq_iff_eq, Option.isNone_iff_eq_none, hnone,
    and_assoc]

theorem C12_default_include_keeps_falsy_values (h n : Nat) :
    defaultInclude { hid := h, name := n, status := .completed, value := .int 0 } = true ∧
    defaultInclude { hid := h, name := n, status := .completed, value := .str "" } = true ∧
    defaultInclude { hid := h, name := n, status := .completed, value := .list [] } = true ∧
    defaultInclude { hid := h, name := n, status := .completed, value := .dict [] } = true :=
  ⟨rfl, rfl, rfl, rfl⟩

/-- whatever an accessor makes of the selection: if it returns, it was given the results `include` admits, in handler order -/
theorem filtered_bind_ok {α : Type} {rs : List Res} {incl : Res → Bool} {ra rn : Bool}
    {g : List Res → Except Err α} {a : α} (h : (filtered rs incl ra rn).bind g = .ok a) :
    g (rs.filter incl) = .ok a := by
  unfold filtered at h
  dsimp only at h
  split at h
  · cases h
  · split at h
    · cases h
    · exact h

/-- C12: whatever the flags, the accessors never invent, drop-and-reorder or duplicate: the included results are a
    sublist of the recorded results (same order), and exactly those the `include` filter admits. -/
theorem C12_filtered_is_the_include_filter (rs : List Res) (incl : Res → Bool) (ra rn : Bool) (l : List Res)
    (h : filtered rs incl ra rn = .ok l) : l = rs.filter incl :=
  (Except.ok.inj (filtered_bind_ok (g := .ok) (by rw [h]; rfl))).symm

theorem C12_views_are_sublists_in_handler_order (rs : List Res) (incl : Res → Bool) (ra rn : Bool) (l : List Res)
    (h : filtered rs incl ra rn = .ok l) : l.Sublist rs := by
  rw [C12_filtered_is_the_include_filter rs incl ra rn l h]
  exact List.filter_sublist

theorem filtered_ok_eq (rs : List Res) (incl : Res → Bool) (ra rn : Bool) (l : List Res)
    (h : filtered rs incl ra rn = .ok l) : l = rs.filter incl :=
  C12_filtered_is_the_include_filter rs incl ra rn l h

-- (`x.map f` is `x.bind fun l => .ok (f l)` by unfolding)
theorem filtered_map_ok {β : Type} {f : List Res → β} {rs : List Res} {incl : Res → Bool} {ra rn : Bool} {b : β}
    (h : (filtered rs incl ra rn).map f = .ok b) : b = f (rs.filter incl) :=
  (Except.ok.inj (filtered_bind_ok (g := fun l => .ok (f l)) h)).symm

/-- C12: with `raise_if_any`, the first recorded error (in handler order) is what is raised. -/
theorem C12_raise_if_any_raises_the_first_error (rs : List Res) (incl : Res → Bool) (rn : Bool) (e : Res)
    (he : (rs.filter isErrorResult).head? = some e) (x : Err) (hx : e.err = some x) :
    filtered rs incl true rn = .error x := by
  unfold filtered
  simp [he, hx]

/-- C12: without `raise_if_any`, errors never make an accessor raise (only an empty selection with `raise_if_none` does). -/
theorem C12_no_raise_without_raise_if_any (rs : List Res) (incl : Res → Bool) (rn : Bool)
    (hne : (rs.filter incl) ≠ []) : filtered rs incl false rn = .ok (rs.filter incl) := by
  unfold filtered
  cases rn <;> simp [hne]

/-- C12: `raise_if_none` is honoured exactly: (errors aside) the accessor raises ValueError if and only if the
    selection is empty. -/
theorem C12_raise_if_none_raises_exactly_on_an_empty_selection (rs : List Res) (incl : Res → Bool) :
    filtered rs incl false true = .error .valueError ↔ rs.filter incl = [] := by
  unfold filtered
  cases rs.filter incl <;> simp

/-- C12: without `raise_if_none` an empty selection is returned as such, not raised. -/
theorem C12_no_raise_if_none_returns_the_empty_selection (rs : List Res) (incl : Res → Bool) :
    filtered rs incl false false = .ok (rs.filter incl) :=
  rfl

/-- C12: `raise_if_any` is honoured exactly: when no result is an error it changes nothing. -/
theorem C12_raise_if_any_without_errors_changes_nothing (rs : List Res) (incl : Res → Bool) (rn : Bool)
    (hne : rs.filter isErrorResult = []) : filtered rs incl true rn = filtered rs incl false rn := by
  unfold filtered
  rw [hne]
  rfl

/-- C12: with `raise_if_any` an accessor raises whenever some result is an error (whatever `include` selects). -/
theorem C12_raise_if_any_raises_whenever_an_error_is_recorded (rs : List Res) (incl : Res → Bool) (rn : Bool)
    (r : Res) (hr : r ∈ rs) (he : isErrorResult r = true) : ∃ x, filtered rs incl true rn = .error x := by
  unfold filtered
  cases hh : rs.filter isErrorResult with
  | nil => exact absurd (List.mem_filter.mpr ⟨hr, he⟩) (by rw [hh]; exact List.not_mem_nil)
  | cons e es => exact ⟨_, rfl⟩

/-- C12: `event_results_list` is the list of values of the included results, in handler order. -/
theorem C12_results_list_is_map_value (rs : List Res) (incl : Res → Bool) (ra rn : Bool) (l : List Val)
    (h : resultsList rs incl ra rn = .ok l) : l = (rs.filter incl).map (·.value) :=
  filtered_map_ok h

/-- C12: `event_result` is the value of the first included result in handler order (None when nothing is included). -/
theorem C12_first_result_is_the_first_included (rs : List Res) (incl : Res → Bool) (ra rn : Bool) (v : Val)
    (h : firstResult rs incl ra rn = .ok v) :
    v = match rs.filter incl with | r :: _ => r.value | [] => .none :=
  filtered_map_ok h

/-- C12: `event_results_by_handler_id` lists exactly the included results, keyed by handler id, in handler order. -/
theorem C12_by_handler_id_is_the_included_results_in_order (rs : List Res) (incl : Res → Bool) (ra rn : Bool)
    (l : List (Nat × Val)) (h : byHandlerId rs incl ra rn = .ok l) :
    l = (rs.filter incl).map fun r => (r.hid, r.value) :=
  filtered_map_ok h

def listOf (r : Res) : List Int := match r.value with | .list xs => xs | _ => []

/-- `flatList` narrows the selection to list values first; what that drops would have contributed nothing -/
theorem flatMap_listOf_filter (rs : List Res) (incl : Res → Bool) :
    (rs.filter (fun r => r.value.isList && incl r)).flatMap listOf = (rs.filter incl).flatMap listOf := by
  rw [← List.filter_filter]
  refine flatMap_filter_of_nil (fun r hr => ?_) _
  unfold listOf
  split
  · rename_i hv; rw [hv] at hr; cases hr
  · rfl

/-- C12: `event_results_flat_list` is the concatenation, in handler order, of the list values among the included
    results: nothing invented, dropped or reordered. -/
theorem C12_flat_list_concatenates_in_handler_order (rs : List Res) (incl : Res → Bool) (ra rn : Bool) (l : List Int)
    (h : flatList rs incl ra rn = .ok l) : l = (rs.filter incl).flatMap listOf :=
  (filtered_map_ok h).trans (flatMap_listOf_filter rs incl)

/-- the fold step of `flatDict` -/
def dictStep (rc : Bool) (acc : Except Err (List (String × Int))) (r : Res) : Except Err (List (String × Int)) :=
  match acc, r.value with
  | .error e, _ => .error e
  | .ok m, .dict kvs =>
    if kvs.isEmpty then .ok m
    else if rc && kvs.any (fun (k, _) => m.any (·.1 == k)) then .error .conflict
    else .ok (mergeDict m kvs)
  | .ok m, _ => .ok m

theorem flatDict_eq (rs : List Res) (incl : Res → Bool) (ra rn rc : Bool) :
    flatDict rs incl ra rn rc =
      (filtered rs (fun r => r.value.isDict && incl r) ra rn).bind (·.foldl (dictStep rc) (.ok [])) := by
  unfold flatDict
  cases filtered rs (fun r => r.value.isDict && incl r) ra rn <;> rfl

theorem foldl_dictStep_error (rc : Bool) (l : List Res) (e : Err) :
    l.foldl (dictStep rc) (.error e) = .error e := by
  induction l with
  | nil => rfl
  | cons r l ih => exact ih

/-- the pairs a result contributes to the flat dict -/
def dictOf (r : Res) : List (String × Int) := match r.value with | .dict kvs => kvs | _ => []

/-- a step of the fold merges the pairs of the result into the dictionary (none for an empty dict or another kind of
    value), unless `raise_if_conflicts` finds a key twice -/
theorem dictStep_ok (rc : Bool) (m : List (String × Int)) (r : Res) :
    dictStep rc (.ok m) r = .ok (mergeDict m (dictOf r)) ∨ (rc = true ∧ dictStep rc (.ok m) r = .error .conflict) := by
  unfold dictStep dictOf
  cases r.value with
  | dict kvs =>
    cases kvs with
    | nil => exact .inl rfl
    | cons kv kvs =>
      by_cases hc : (rc && (kv :: kvs).any (fun (k, _) => m.any (·.1 == k))) = true
      · exact .inr ⟨((Bool.and_eq_true _ _).mp hc).1, if_pos hc⟩
      · exact .inl (if_neg hc)
  | _ => exact .inl rfl

/-- the fold of `flatDict` merges the pairs of one result after the other; it raises only under `raise_if_conflicts`,
    and then a conflict -/
theorem foldl_dictStep (rc : Bool) (l : List Res) (m : List (String × Int)) :
    l.foldl (dictStep rc) (.ok m) = .ok (l.foldl (fun m r => mergeDict m (dictOf r)) m) ∨
      (rc = true ∧ l.foldl (dictStep rc) (.ok m) = .error .conflict) := by
  induction l generalizing m with
  | nil => exact .inl rfl
  | cons r l ih =>
    rw [List.foldl_cons, List.foldl_cons]
    rcases dictStep_ok rc m r with hs | ⟨hrc, hs⟩ <;> rw [hs]
    · exact ih _
    · exact .inr ⟨hrc, foldl_dictStep_error rc l _⟩

/-- C12: `raise_if_conflicts=False` is honoured: `event_results_flat_dict` then raises only what the selection
    itself raises (an error under `raise_if_any`, an empty selection under `raise_if_none`) — never a conflict of
    its own; later values overwrite earlier ones instead. -/
theorem C12_flat_dict_without_raise_if_conflicts_raises_only_what_the_selection_raises
    (rs : List Res) (incl : Res → Bool) (ra rn : Bool) (e : Err)
    (h : flatDict rs incl ra rn false = .error e) :
    filtered rs (fun r => r.value.isDict && incl r) ra rn = .error e := by
  rw [flatDict_eq] at h
  cases hf : filtered rs (fun r => r.value.isDict && incl r) ra rn with
  | error e' => rw [hf] at h; cases h; rfl
  | ok l =>
    rw [hf] at h
    rcases foldl_dictStep false l [] with hm | ⟨hrc, _⟩
    · cases hm.symm.trans h
    · cases hrc

/-- non-vacuity: three results, the second an error; default include -/
example : firstResult [{ hid := 1, name := 1, status := .completed, value := .int 4 },
      { hid := 2, name := 2, status := .error, err := some (.handler 2) },
      { hid := 3, name := 3, status := .completed, value := .int 6 }] defaultInclude false true = .ok (.int 4) := by
  rfl

example : flatList [{ hid := 1, name := 1, status := .completed, value := .list [1, 2] },
      { hid := 2, name := 2, status := .completed, value := .int 9 },
      { hid := 3, name := 3, status := .completed, value := .list [3] }] defaultInclude false true = .ok [1, 2, 3] := by
  rfl

end Bubus.Thm
