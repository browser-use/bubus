/-
  Bubus.Proofs.Examples — non-vacuity: concrete, non-trivial states that meet the hypotheses of the invariant theorems.
  The label lists are real accepted histories recorded from bubus by the harness (scenario: a handler of event 0 on a
  serial bus dispatches event 1 and awaits it; ordinary code awaits event 0).  Everything here is evaluated by the
  kernel (`decide`), nothing is assumed.
-/
import Bubus.Proofs.Account
import Bubus.Proofs.MutexThm
import Bubus.Proofs.HistInv
import Bubus.Proofs.Fifo
import Bubus.Proofs.PathInv
import Bubus.Proofs.NoSkip
import Bubus.Proofs.RunLoop
import Bubus.Proofs.Expect
import Bubus.Proofs.Wal
import Bubus.Proofs.Finished
import Bubus.Proofs.InlineDone
import Bubus.Proofs.PathReach
namespace Bubus.Examples
open Bubus

/-- up to the start of the nested handler -/
def nested : List Label :=
  [.newBus 0 false (some 50) false, .on 0 1 0 .async, .on 0 2 1 .async, .newEvent 0 1 none 0, .rlCreate 0,
   .dispatch .ext 0 0 .ok, .take (.rl 0) 0 0, .rlWake 0, .peBegin (.rl 0) 0 0, .hSched (.rl 0) 0 0 0 0, .hStart 0,
   .newEvent 1 2 none 0, .dispatch (.inst 0) 0 1 .ok, .awaitBegin 0 1, .take (.inst 0) 0 1, .peBegin (.inst 0) 0 1,
   .hSched (.inst 0) 1 0 1 1, .hStart 1]

/-- … and on to quiescence -/
def complete : List Label :=
  nested ++ [.hEnd 1 .ret, .hFinish 1 .completed, .peEnd (.inst 0) 0 1, .awaitEnd 0 1, .hEnd 0 .ret, .hFinish 0 .completed,
             .peEnd (.rl 0) 0 0, .xAwaitEnd 0]

/-- the model accepts both histories; the first reaches a state with two live handler instances chained under the lock,
    both queue slots accounted for as "in hand" (the accounting bound of C15 is tight there) -/
example : ((run {} nested).map fun w => (w.stack, w.lock, (w.bus 0).queue, (w.bus 0).unfinished, hand w 0)) =
    some ([1, 0], some 0, [], 2, 2) := by decide +kernel

example : ((run {} complete).map fun w => (w.stack, w.lock, (w.bus 0).unfinished, (w.ev 0).signal, (w.ev 1).signal)) =
    some ([], none, 0, true, true) := by decide +kernel

example : ((run {} complete).map fun w => ((w.ev 1).parent, (w.bus 0).enq, (w.bus 0).taken)) =
    some (some 0, [0, 1], [0, 1]) := by decide +kernel

/-- the premise `SerialRun` of the C06 invariant theorems holds of a run that nests handlers -/
example : SerialRun nested := by
  show ∀ l ∈ nested, serialLabel l = true
  decide +kernel

/-- in that state exactly one instance is executing and the other one is suspended in its await -/
example : ((run {} nested).map fun w => (cs (w.inst 0).st, cs (w.inst 1).st)) = some (.wait, .busy) := by decide +kernel

/-- guard-level theorems: their hypothesis `step w l = some w'` is met by real transitions, e.g. the inline take of
    the awaited child (C05) and the start of the nested handler (C06) -/
example : ((run {} (nested.take 14)).bind fun w => step w (.take (.inst 0) 0 1)).isSome = true := by decide +kernel
example : ((run {} (nested.take 17)).bind fun w => step w (.hStart 1)).isSome = true := by decide +kernel

/-- a reachable state with a bounded, non-empty history and a duplicate-free path (C13, C07) -/
example : ((run {} complete).map fun w => ((w.bus 0).hist, (w.bus 0).maxh, (w.ev 1).path)) = some ([0, 1], some 50, [0]) := by
  decide +kernel

/-- a real history with a handler timeout on a bus with `max_history_size = 1`: the handler of event 0 (timeout 90 ticks)
    awaits its child 1 whose handler sleeps; at the deadline the nested handler is cancelled, the inline activation of the
    child is abandoned (finding F5), the outer handler ends with a timeout error whose cleanup turns the child's pending
    result into an error; then event 2 is processed by two serial handlers and the history evicts down to its bound -/
def timeoutRun : List Label :=
  [.newBus 0 false (some 1) false, .on 0 1 0 .async, .on 0 2 1 .async, .on 0 2 2 .async, .newEvent 0 1 none 90, .rlCreate 0,
   .dispatch .ext 0 0 .ok, .take (.rl 0) 0 0, .rlWake 0, .peBegin (.rl 0) 0 0, .hSched (.rl 0) 0 0 0 0, .hStart 0,
   .newEvent 1 2 none 0, .dispatch (.inst 0) 0 1 .ok, .awaitBegin 0 1, .take (.inst 0) 0 1, .peBegin (.inst 0) 0 1,
   .hSched (.inst 0) 1 0 1 1, .hStart 1, .tick 90, .hCancel 1, .hEnd 1 .cancelled, .hFinish 1 .errCancelled,
   .peAbort (.inst 0) 0 1, .hCancel 0, .hEnd 0 .cancelled, .hFinish 0 .errTimeout, .peEnd (.rl 0) 0 0, .xAwaitEnd 0,
   .newEvent 2 2 none 0, .dispatch .ext 0 2 .ok, .take (.rl 0) 0 2, .rlWake 0, .peBegin (.rl 0) 0 2,
   .hSched (.rl 0) 2 0 2 1, .hStart 2, .tick 570, .hEnd 2 .ret, .hFinish 2 .completed, .hSched (.rl 0) 3 0 2 2, .hStart 3,
   .hEnd 3 .ret, .hFinish 3 .completed, .peEnd (.rl 0) 0 2]

/-- accepted by the model; the history is at its bound (C13); the abandoned child is never signalled and its `task_done()`
    was skipped — the accounting inequality of C15 is strict (counter 1, nothing queued or in hand): the model carries
    finding F5 rather than hiding it -/
example : ((run {} timeoutRun).map fun w =>
    ((w.bus 0).hist, (w.bus 0).unfinished, hand w 0, (w.ev 0).signal, (w.ev 1).signal, (w.ev 2).signal)) =
    some ([2], 1, 0, true, false, true) := by decide +kernel

example : ((run {} timeoutRun).map fun w => ((w.ev 1).results.map (·.status), (w.ev 0).results.map (·.err))) =
    some ([.error, .error], [.timeout]) := by decide +kernel

/-- time cannot pass the armed deadline of the running handler (C10): one tick later is rejected -/
example : ((run {} (timeoutRun.take 19)).bind fun w => step w (.tick 91)).isSome = false := by decide +kernel

/-- non-vacuity of the C01 no-skip theorems: the state just before the inner activation ends (the first 20 labels of
    `complete`) is reachable, its activation has a non-empty list of selected handlers, and `peEnd` is enabled there -/
example : ((run {} (complete.take 20)).map fun w =>
      ((w.act (.inst 0)).map (·.sel), (step w (.peEnd (.inst 0) 0 1)).isSome, (w.ev 1).results.map (·.terminal))) =
    some (some [1], true, [true]) := by decide +kernel

/-- … and mid-way (the history `nested`) the selected handler of the inner activation is neither on the to-do list nor
    finished: it is the live instance 1 — the middle disjunct of `C01_a_selected_handler_is_never_lost` -/
example : ((run {} nested).map fun w =>
      ((w.act (.inst 0)).map fun A => (A.sel, A.todo, A.running), (w.ev 1).results.map (·.terminal))) =
    some (some ([1], [], [1]), [false]) := by decide +kernel

/-- non-vacuity of the C16 run-loop invariant theorems: a reachable state in which the run loop of bus 0 has exited
    (its task was cancelled while it polled) with an event still queued; there `hSched` and `peBegin` of that run loop are
    disabled, and `rlCreate` is the one label that leaves the state -/
def cancelledRun : List Label :=
  [.newBus 0 false (some 50) false, .on 0 1 0 .async, .newEvent 0 1 none 0, .rlCreate 0, .dispatch .ext 0 0 .ok,
   .cancelRl 0, .rlExit 0]

example : ((run {} cancelledRun).map fun w => ((w.bus 0).rl, (w.bus 0).queue, (w.act (.rl 0)).isSome)) =
    some (.exited, [0], false) := by decide +kernel

example : ((run {} cancelledRun).bind fun w => step w (.peBegin (.rl 0) 0 0)).isSome = false := by decide +kernel
example : ((run {} cancelledRun).bind fun w => step w (.rlCreate 0)).isSome = true := by decide +kernel

/-- non-vacuity of the C18 subscription invariant: a reachable state with a pending `expect()` call and its temporary
    handler on the registry; after the call has timed out (`expectTimeout`, then `expectEnd` with no match at the deadline)
    the registry is empty again and the caller idle -/
def expectRun : List Label :=
  [.newBus 0 false (some 50) false, .on 0 1 0 .async, .expectBegin 0 0 1 7 0 (some 5)]

example : ((run {} expectRun).map fun w => ((w.bus 0).handlers.map (·.kind), w.waiter 0)) =
    some ([.async, .expect 0 0], .expecting 0 1 7 (some 5) none false) := by decide +kernel

example : ((run {} (expectRun ++ [.tick 5, .expectTimeout 0, .expectEnd 0 none])).map fun w =>
      ((w.bus 0).handlers.map (·.kind), w.waiter 0)) = some ([.async], .idle) := by decide +kernel

/-- non-vacuity of the C17 log invariant: a reachable state of a WAL bus with a line in its log (the line's event was
    taken by the bus) -/
def walRun : List Label :=
  [.newBus 0 false (some 50) true, .on 0 1 0 .sync, .newEvent 0 1 none 0, .rlCreate 0, .dispatch .ext 0 0 .ok,
   .take (.rl 0) 0 0, .rlWake 0, .peBegin (.rl 0) 0 0, .hSched (.rl 0) 0 0 0 0, .hStart 0, .hEnd 0 .ret,
   .hFinish 0 .completed, .walWrite (.rl 0) 0 0 true, .peEnd (.rl 0) 0 0]

example : ((run {} walRun).map fun w => ((w.bus 0).walLines, (w.bus 0).taken, (w.bus 0).enq)) = some ([0], [0], [0]) := by
  decide +kernel

/-- non-vacuity of the C10 / C11 invariant on recorded outcomes: at the end of `complete` both instances are finished and
    their results terminal; at the end of `timeoutRun` the recorded outcomes include a timeout and a cancellation -/
example : ((run {} complete).map fun w => ((w.inst 0).st, (w.inst 1).st, (w.ev 0).results.map (·.terminal), (w.ev 1).results.map (·.terminal))) =
    some (.finished, .finished, [true], [true]) := by decide +kernel

example : ((run {} timeoutRun).map fun w =>
      ((List.range w.ni).all fun i => (w.inst i).st == .finished,
       (List.range w.ne).all fun e => (w.ev e).results.all (·.terminal))) = some (true, true) := by decide +kernel

/-- non-vacuity of the serial-bus theorems about handlers run inside an await (`Proofs/InlineDone.lean`): in the history `nested`
    instance 1 runs inside the await of instance 0 (executor link), instance 0 is suspended, instance 1 executes, and following
    the executor links from 1 reaches 0 (`C05_whatever_executes_while_a_handler_is_alive_runs_inside_it`); after the first 26
    labels of `timeoutRun` the body of instance 0 has ended (cancelled by its deadline) and instance 1 has finished
    (`C10_when_a_handler_has_ended_every_handler_it_ran_inline_has_finished`); both prefixes are serial runs -/
example : ((run {} nested).map fun w => ((w.inst 1).exec, (w.inst 0).st, (w.inst 1).st, iterExec w 1 1)) =
    some (.inst 0, .awaiting 1, .running, some 0) := by decide +kernel
example : SerialRun (timeoutRun.take 26) := by
  show ∀ l ∈ timeoutRun.take 26, serialLabel l = true
  decide +kernel
example : ((run {} (timeoutRun.take 26)).map fun w => ((w.inst 1).exec, (w.inst 0).st, (w.inst 1).st)) =
    some (.inst 0, .ended, .finished) := by decide +kernel

/-- non-vacuity of `C05_the_await_suspends_only_when_every_queue_is_empty` and of
    `C17_the_wal_line_is_written_after_every_selected_handler_has_finished` / `C01_a_selected_handler_is_passed_over_…`: the
    polling yield is enabled in a reachable state whose queues are empty (instance 0 of `nested`, once its child has been
    processed and before the await returns, is not polling any more - so the state right after `awaitBegin`, with the child
    still queued, is the one where the yield is *disabled*) -/
example : ((run {} (nested.take 14)).map fun w => ((w.bus 0).queue, (step w (.pollYield 0)).isSome, (step w (.take (.inst 0) 0 1)).isSome)) =
    some ([1], false, true) := by decide +kernel

/-- non-vacuity of `C07_a_bus_processes_only_events_whose_path_lists_it` (`Proofs/PathReach.lean`): in the history `nested` bus 0 has
    had events 0 and 1 in its queue, both list bus 0 in their path, and the open inline activation of instance 0 is for
    event 1 on bus 0 -/
example : ((run {} nested).map fun w => ((w.bus 0).enq, (w.ev 0).path, (w.ev 1).path, (w.act (.inst 0)).map fun A => (A.bus, A.ev))) =
    some ([0, 1], [0], [0], some (0, 1)) := by decide +kernel

end Bubus.Examples
