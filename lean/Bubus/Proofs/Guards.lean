/-
  Bubus.Proofs.Guards — property theorems that are consequences of the guard of a single label: what must be true of the
  state whenever the library performs that action.
  Names: `Bubus.Thm.<property>_<what>`; the audit (`Bubus/Audit.lean`) lists every theorem in `Bubus.Thm`, helpers included.
-/
import Bubus.Proofs.Effects
namespace Bubus

theorem guard_iff (w : World) (l : Label) : guard w l = true ↔ ∀ c ∈ checks w l, c.2 = true :=
  List.all_eq_true

namespace Thm

/-- **C01 (no skip, local form)**: an activation ends normally only when every handler that was selected for it has been
    scheduled and has finished — none is skipped. -/
theorem C01_activation_ends_only_when_every_selected_handler_finished (w w' : World) (p : Proc) (b : BId) (e : EId)
    (hs : step w (.peEnd p b e) = some w') :
    ∃ A, w.act p = some A ∧ A.bus = b ∧ A.ev = e ∧ A.todo = [] ∧ A.running = [] := by
  obtain ⟨hact, hout, _⟩ := guard_all (step_some hs).1
  exact act_worked_off hact hout

/-- C01: scheduling a handler requires its result to be pending (a started or finished handler is never scheduled again). -/
theorem C01_scheduling_requires_a_pending_result (w w' : World) (p : Proc) (i : IId) (b : BId) (e : EId) (k : HId)
    (h : step w (.hSched p i b e k) = some w') :
    ∃ r, (w.ev e).getRes? b k = some r ∧ r.status = .pending :=
  hSched_pending (step_some h).1

/-- C02 (take order): whoever takes from a bus's queue — the run loop or an awaiting handler — takes its head,
    and the queue loses exactly that element. -/
theorem C02_take_is_head (w w' : World) (p : Proc) (b : BId) (e : EId)
    (h : step w (.take p b e) = some w') :
    (w.bus b).queue = e :: (w'.bus b).queue := by
  obtain ⟨hg, rfl⟩ := step_some h
  obtain ⟨_, hq, _⟩ := guard_all hg
  obtain ⟨t, ht⟩ := List.head?_eq_some_iff.mp (eq_of_beq hq)
  rw [apply, wake_bus, apply0_queue]
  dsimp only
  rw [if_pos rfl, ht]
  rfl

/-- **C02** (a run loop holds at most one event): a run loop takes an event from its queue only while it is polling - not
    while it holds a taken event it has not begun, and not while it is processing one. -/
theorem C02_a_run_loop_takes_an_event_only_while_it_polls (w w' : World) (b b' : BId) (e : EId)
    (hs : step w (.take (.rl b') b e) = some w') : b' = b ∧ (w.bus b).rl = .polling := by
  have h := guard_rl (step_some hs).1
  exact ⟨h.1, h.2.2⟩

/-- C03: an `await event` from ordinary code returns only once the event's completion signal is set. -/
theorem C03_external_await_needs_signal (w w' : World) (e : EId)
    (h : step w (.xAwaitEnd e) = some w') : (w.ev e).signal = true := by
  obtain ⟨_, hs, _⟩ := guard_all (step_some h).1
  exact hs

/-- C04: an in-handler `await child` returns only when the child is signalled complete or the polling loop ran out
    (`maxPoll` iterations — the silent give-up of finding F1). -/
theorem C04_await_returns_signalled_or_gave_up (w w' : World) (i : IId) (c : EId)
    (h : step w (.awaitEnd i c) = some w') :
    (w.ev c).signal = true ∨ w.cfg.maxPoll ≤ (w.inst i).iters := by
  obtain ⟨_, _, _, hs, _⟩ := guard_all (step_some h).1
  exact ((Bool.or_eq_true _ _).mp hs).imp id of_decide_eq_true

/-- C05: inline processing (an awaiting handler taking an event off a queue) happens only while the awaited event is
    not yet signalled complete, and always takes the head of the queue (whatever event that is — finding F0). -/
theorem C05_inline_take_only_while_incomplete (w w' : World) (i : IId) (b : BId) (e : EId)
    (h : step w (.take (.inst i) b e) = some w') :
    ∃ c, (w.inst i).st = .awaiting c ∧ (w.ev c).signal = false ∧ (w.bus b).queue.head? = some e := by
  obtain ⟨_, hq, hp, _⟩ := guard_all (step_some h).1
  have hsig := ((Bool.and_eq_true _ _).mp hp).2
  cases hs : (w.inst i).st <;> rw [hs] at hsig <;> first | cases hsig | skip
  exact ⟨_, rfl, (Bool.not_eq_true' _).mp hsig, eq_of_beq hq⟩

/-- C06: a run loop begins processing only when the global lock is free, and holds it afterwards. -/
theorem C06_runloop_begins_under_free_lock (w w' : World) (b : BId) (e : EId)
    (h : step w (.peBegin (.rl b) b e) = some w') : w.lock = none ∧ w'.lock = some b := by
  obtain ⟨hg, hw'⟩ := step_some h
  subst w'  -- by name: the pattern `rfl` would first normalise `apply w _`, which unfolds `wake` over the whole new state
  obtain ⟨_, hp, _⟩ := guard_all hg
  simp only [Bool.and_eq_true, Option.isNone_iff_eq_none] at hp
  refine ⟨hp.1.2, ?_⟩
  rw [apply, wake_lock]
  dsimp only [apply0]
  exact (peOpen_frame _ _ _ _ .lock (by decide)).trans rfl

/-- C06: a handler is scheduled by a run loop only while that run loop holds the global lock. -/
theorem C06_runloop_schedules_under_lock (w w' : World) (b' : BId) (i : IId) (b : BId) (e : EId) (k : HId)
    (h : step w (.hSched (.rl b') i b e k) = some w') : w.lock = some b' := by
  obtain ⟨_, _, _, hx, _⟩ := guard_all (step_some h).1
  exact eq_of_beq ((Bool.and_eq_true _ _).mp hx).1

/-- **C09**: what `event.event_bus` yields inside a handler is the bus that runs the handler. -/
theorem C09_event_bus_is_the_bus_running_the_handler (w w' : World) (i : IId) (got : Option BId)
    (hs : step w (.readBus i got) = some w') : got = some (w.inst i).bus := by
  obtain ⟨_, _, hb, _⟩ := guard_all (step_some hs).1
  exact eq_of_beq hb

/-- C10: virtual time never passes the deadline of a handler that is still scheduled, running or awaiting and whose task
    has not been cancelled yet (nor is a handler running inside its inline activation being cancelled in its stead):
    the handler is cancelled at its deadline, not later (what it does in its own cleanup afterwards is its business). -/
theorem C10_time_never_passes_a_live_deadline (w w' : World) (t : Nat) (i : IId)
    (h : step w (.tick t) = some w') (hi : i < w.ni) (hd : (w.inst i).deadline ≠ 0)
    (hlive : (w.inst i).st ≠ .finished ∧ (w.inst i).st ≠ .ended) (hnc : (w.inst i).cancelling = false)
    (hnp : cancelInProgress w i = false) :
    t ≤ (w.inst i).deadline := by
  obtain ⟨_, hdl, _⟩ := guard_all (step_some h).1
  have := List.all_eq_true.mp hdl i (List.mem_range.mpr hi)
  simpa [hd, hlive.1, hlive.2, hnc, hnp] using this

/-- **C10**: a handler's result becomes a timeout error only if the handler's own deadline has passed (and its body, if it
    had started, was cancelled). -/
theorem C10_timeout_result_only_after_the_own_deadline (w w' : World) (i : IId)
    (hs : step w (.hFinish i .errTimeout) = some w') :
    ((w.inst i).st = .ended ∧ (w.inst i).out = .cancelled ∧ ownExpired w i = true) ∨
    ((w.inst i).st = .scheduled ∧ cancelDueAll w i = true) := by
  obtain ⟨_, hst, hout, _⟩ := guard_all (step_some hs).1
  rcases (Bool.or_eq_true _ _).mp hst with hst | hst
  · left
    have hst := eq_of_beq hst
    cases ho : (w.inst i).out <;> simp [hst, ho] at hout
    exact ⟨hst, rfl, hout⟩
  · right; simpa using hst

/-- C14: dispatch has exactly the outcomes of the model's `dispatchOutcome`: accepted, or one of the three
    documented rejections — never a silent drop. -/
theorem C14_dispatch_outcome_is_determined (w w' : World) (p : Proc) (b : BId) (e : EId) (res : DRes)
    (h : step w (.dispatch p b e res) = some w') : res = dispatchOutcome w b := by
  obtain ⟨_, _, _, _, hr, _⟩ := guard_all (step_some h).1
  exact eq_of_beq hr

/-- **C14 / C01** (no spurious drop): an event taken for processing is refused by the recursion guard only where the documented
    rule says so (`recursionTrips`: one of its handlers already has a result on more than `recursionLimit` of its ancestors). -/
theorem C14_the_recursion_guard_trips_only_by_its_rule (w w' : World) (p : Proc) (b : BId) (e : EId)
    (hs : step w (.peRecTrip p b e) = some w') : recursionTrips w b e = true := by
  obtain ⟨_, _, hr, _⟩ := guard_all (step_some hs).1
  exact hr

/-- C15: `wait_until_idle()` returns only when the idle flag is set and the bus's history holds no pending or
    started event. -/
theorem C15_wait_until_idle_returns_only_idle (w w' : World) (x : Nat)
    (h : step w (.wiEnd x) = some w') :
    ∃ b, w.waiter x = .check b ∧ (w.bus b).idle = true ∧ histAllComplete w b = true := by
  obtain ⟨hc, _⟩ := guard_all (step_some h).1
  split at hc
  · exact ⟨_, ‹_›, (Bool.and_eq_true _ _).mp hc⟩
  · cases hc

/-- C16: `stop()` returns only when the run loop has finished or the 0.1 s grace period is over … -/
theorem C16_stop_returns_when_loop_done_or_grace_over (w w' : World) (x : Nat)
    (h : step w (.stopEnd x) = some w') :
    ∃ b d c, w.waiter x = .stopping b d c ∧ ((w.bus b).rl = .exited ∨ (w.bus b).rl = .none ∨ d ≤ w.now) := by
  obtain ⟨hc, _⟩ := guard_all (step_some h).1
  split at hc
  · exact ⟨_, _, _, ‹_›, by simpa [or_assoc] using hc⟩
  · cases hc

/-- … C16: and time cannot pass that grace deadline while `stop()` is still blocked: `stop()` is bounded. -/
theorem C16_time_never_passes_the_stop_deadline (w w' : World) (t x : Nat) (b : BId) (d : Nat) (c : Bool)
    (h : step w (.tick t) = some w') (hx : x < w.nx) (hw : w.waiter x = .stopping b d c) : t ≤ d := by
  obtain ⟨_, _, hdl, _⟩ := guard_all (step_some h).1
  have := List.all_eq_true.mp hdl x (List.mem_range.mpr hx)
  rw [hw] at this
  exact of_decide_eq_true this

/-- **C16**: a run loop whose task has been cancelled (by `stop()` or from outside) begins no further activation … -/
theorem C16_cancelled_run_loop_begins_no_activation (w w' : World) (b' b : BId) (e : EId)
    (hs : step w (.peBegin (.rl b') b e) = some w') : (w.bus b').cancelReq = false := by
  obtain ⟨_, _, _, hc, _⟩ := guard_all (step_some hs).1
  exact (Bool.not_eq_true' _).mp hc

/-- … and schedules no further handler of the activation it was in: the cancellation terminates it. -/
theorem C16_cancelled_run_loop_schedules_no_handler (w w' : World) (b' : BId) (i : IId) (b : BId) (e : EId) (k : HId)
    (hs : step w (.hSched (.rl b') i b e k) = some w') : (w.bus b').cancelReq = false := by
  obtain ⟨_, _, _, _, _, _, _, hc, _⟩ := guard_all (step_some hs).1
  exact (Bool.not_eq_true' _).mp hc

/-- **C17**: an activation of a WAL bus ends normally only after its WAL write was attempted — no processed event is
    skipped — and the write happens after all its handlers finished (the line records the finished event). -/
theorem C17_activation_ends_only_after_its_wal_attempt (w w' : World) (p : Proc) (b : BId) (e : EId)
    (hs : step w (.peEnd p b e) = some w') (hwal : (w.bus b).wal = true) :
    ∃ A, w.act p = some A ∧ A.bus = b ∧ A.ev = e ∧ A.walDone = true ∧ A.todo = [] ∧ A.running = [] := by
  obtain ⟨hact, hout, hw, _⟩ := guard_all (step_some hs).1
  obtain ⟨A, hA, hb, he, ht, hr⟩ := act_worked_off hact hout
  rw [hA, hwal] at hw
  exact ⟨A, hA, hb, he, hw, ht, hr⟩

/-- **C17**: the WAL write of an activation happens at most once (the attempt is recorded in the activation, a second
    one is not enabled), only on a WAL bus, and only once every handler of the activation has finished. -/
theorem C17_one_wal_attempt_per_activation (w w' : World) (p : Proc) (b : BId) (e : EId) (ok : Bool)
    (hs : step w (.walWrite p b e ok) = some w') :
    (w.bus b).wal = true ∧
    (∃ A, w.act p = some A ∧ A.bus = b ∧ A.ev = e ∧ A.walDone = false ∧ A.todo = [] ∧ A.running = []) ∧
    (∃ A', w'.act p = some A' ∧ A'.walDone = true) := by
  obtain ⟨hg, rfl⟩ := step_some hs
  obtain ⟨hact, hout, hw, _⟩ := guard_all hg
  obtain ⟨A, hA, hb, he, ht, hr⟩ := act_worked_off hact hout
  rw [hA] at hw
  obtain ⟨hwal, hnd⟩ := (Bool.and_eq_true _ _).mp hw
  refine ⟨hwal, ⟨A, hA, hb, he, (Bool.not_eq_true' _).mp hnd, ht, hr⟩, ?_⟩
  rw [apply, wake_act, apply0_act]
  dsimp only
  rw [if_pos rfl, hA]
  exact ⟨_, rfl, rfl⟩

/-- C18: `expect()` returns exactly the event its temporary handler resolved the future with, or times out at its
    deadline without one. -/
theorem C18_expect_returns_what_its_handler_matched (w w' : World) (x : Nat) (got : Option EId)
    (h : step w (.expectEnd x got) = some w') :
    ∃ b key k d g dead, w.waiter x = .expecting b key k d g dead ∧ (got.isSome → g = got) ∧ (got.isSome ∨ ∃ t, d = some t ∧ t ≤ w.now) := by
  obtain ⟨hc, _⟩ := guard_all (step_some h).1
  split at hc
  · rename_i d g _ hw
    refine ⟨_, _, _, d, g, _, hw, ?_⟩
    cases got with
    | some e => exact ⟨fun _ => eq_of_beq hc, .inl rfl⟩
    | none =>
      cases d with
      | none => cases hc
      | some t => exact ⟨nofun, .inr ⟨t, rfl, of_decide_eq_true hc⟩⟩
  · cases hc

end Thm
end Bubus
