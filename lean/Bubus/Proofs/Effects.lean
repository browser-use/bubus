/-
  Bubus.Proofs.Effects — what single components of the state look like after a label, in closed form: the open
  activations (`apply0_act`), the run-loop state of a bus (`apply0_rl`), the state of an instance and the event it holds
  in hand (`apply0_st`, `apply0_took`), queue, enqueued, taken and log of a bus (`apply0_queue`, `apply0_enq`,
  `apply0_taken`, `apply0_walLines`). The labels that, by the table `writes`, do not write the component are disposed of by
  `apply0_frame`; only the writers are spelt out. `guard_rl` collects what the guards of the run-loop labels say.
-/
import Bubus.Proofs.Footprint
namespace Bubus

theorem peEnter_act (w : World) (p : Proc) (b : BId) : (peEnter w p b).act = w.act := by cases p <;> rfl

theorem peOpen_act (w : World) (p q : Proc) (b : BId) (e : EId) :
    (peOpen w p b e).act q =
      if q = p then some { bus := b, ev := e, todo := applicable w b e, running := [], sel := applicable w b e } else w.act q := by
  unfold peOpen
  dsimp only
  split <;> simp only [markComplete_frame _ e .act (by decide), setAct_act, modEv_eq, setEv_act]

/-- a state `W` whose activations are those of `w`, but for the activation of `p`, which, if open, is rewritten by `f`: the
    form in which `hSched`, `hSkip`, `hFinish` and `walWrite` advance an activation -/
theorem act_mapAct (w W : World) (p q : Proc) (f : Act → Act)
    (hW : W.act = match w.act p with | some A => (w.setAct p (some (f A))).act | none => w.act) :
    W.act q = if q = p then (w.act q).map f else w.act q := by
  rw [hW]
  cases hA : w.act p <;> dsimp only <;> (try rw [setAct_act]) <;> split
  all_goals first | rfl | (rename_i hq; rw [hq, hA]; rfl)

theorem applySched_act (w : World) (p q : Proc) (i : IId) (b : BId) (e : EId) (k : HId) :
    (applySched w p i b e k).act q =
      if q = p then (w.act q).map fun A => { A with todo := A.todo.tail, running := A.running ++ [i] } else w.act q :=
  act_mapAct w _ p q _ (by unfold applySched; cases w.act p <;> rfl)

theorem finishCore_act (w : World) (i : IId) (r : Fin) (q : Proc) :
    (finishCore w i r).act q =
      if q = (w.inst i).exec then (w.act q).map fun A => { A with running := A.running.erase i } else w.act q :=
  act_mapAct w _ (w.inst i).exec q _ (by unfold finishCore; dsimp only; cases w.act (w.inst i).exec <;> rfl)

theorem applyFinish_act (w : World) (i : IId) (r : Fin) (q : Proc) :
    (applyFinish w i r).act q =
      if q = (w.inst i).exec then (w.act q).map fun A => { A with running := A.running.erase i } else w.act q := by
  rw [applyFinish_eq]
  split
  · exact (congrFun (cancelPendingChildren_frame _ _ _ .act (by decide)) q).trans (finishCore_act w i r q)
  · exact finishCore_act w i r q

theorem peClose_act (w : World) (p q : Proc) (b : BId) (e : EId) : (peClose w p b e).act q = if q = p then none else w.act q := by
  rw [peClose_eq]
  simp only [modBus_eq, setBus_act, setAct_act, cleanup_frame _ b .act (by decide),
    completeWalk_frame w e .act (by decide)]

theorem apply0_act (w : World) (l : Label) (q : Proc) :
    (apply0 w l).act q = match l with
      | .peBegin p b e => if q = p then
          some { bus := b, ev := e, todo := applicable (peEnter w p b) b e, running := [], sel := applicable (peEnter w p b) b e }
        else w.act q
      | .hSched p i _ _ _ => if q = p then (w.act q).map fun A => { A with todo := A.todo.tail, running := A.running ++ [i] } else w.act q
      | .hSkip p _ _ _ => if q = p then (w.act q).map fun A => { A with todo := A.todo.tail } else w.act q
      | .hFinish i _ => if q = (w.inst i).exec then (w.act q).map fun A => { A with running := A.running.erase i } else w.act q
      | .walWrite p _ _ _ => if q = p then (w.act q).map fun A => { A with walDone := true } else w.act q
      | .peEnd p _ _ | .peAbort p _ _ => if q = p then none else w.act q
      | _ => w.act q := by
  have keep := fun h => congrFun (apply0_keeps (w := w) (l := l) (f := .act) h) q
  cases l
  case peBegin p b e => exact (peOpen_act _ p q b e).trans (by rw [peEnter_act])
  case hSched p i b e k => exact applySched_act w p q i b e k
  case hSkip p b e k => exact act_mapAct w _ p q _ (by dsimp only [apply0]; cases w.act p <;> rfl)
  case hFinish i r => exact applyFinish_act w i r q
  case walWrite p b e ok => exact act_mapAct w _ p q _ (by dsimp only [apply0]; cases w.act p <;> cases ok <;> rfl)
  case peEnd p b e =>
    cases p <;> dsimp only [apply0]
    · rw [releaseRl_frame _ _ .act (by decide)]; exact peClose_act w _ q b e
    all_goals exact peClose_act w _ q b e
  case peAbort p b e => cases p <;> (dsimp only [apply0]; simp [setAct_act])
  all_goals exact keep rfl

theorem act_of_ite_map {w : World} {q p : Proc} {f : Act → Act} {A : Act}
    (h : (if q = p then (w.act q).map f else w.act q) = some A) :
    (q = p ∧ ∃ A0, w.act q = some A0 ∧ A = f A0) ∨ w.act q = some A := by
  split at h
  · rename_i hq
    cases hA0 : w.act q <;> simp only [hA0, Option.map_some, Option.some.injEq] at h
    · cases h
    · exact .inl ⟨hq, _, rfl, h.symm⟩
  · exact .inr h

/-- where an activation that is open after a label comes from: it was open before, as it is or but for what `hSched`, `hSkip`,
    `hFinish`, `walWrite` rewrite, or the label is the `peBegin` that opens it -/
inductive ActOrigin (w : World) (q : Proc) : Label → Act → Prop
  | same {l A} : w.act q = some A → ActOrigin w q l A
  | opened {b e} : ActOrigin w q (.peBegin q b e)
      { bus := b, ev := e, todo := applicable (peEnter w q b) b e, running := [], sel := applicable (peEnter w q b) b e }
  | sched {i b e k A0} : w.act q = some A0 →
      ActOrigin w q (.hSched q i b e k) { A0 with todo := A0.todo.tail, running := A0.running ++ [i] }
  | skip {b e k A0} : w.act q = some A0 → ActOrigin w q (.hSkip q b e k) { A0 with todo := A0.todo.tail }
  | finish {i r A0} : q = (w.inst i).exec → w.act q = some A0 →
      ActOrigin w q (.hFinish i r) { A0 with running := A0.running.erase i }
  | wal {b e ok A0} : w.act q = some A0 → ActOrigin w q (.walWrite q b e ok) { A0 with walDone := true }

theorem act_origin {w : World} {l : Label} {q : Proc} {A : Act} (h : (apply0 w l).act q = some A) : ActOrigin w q l A := by
  rw [apply0_act] at h
  cases l
  case peBegin p b e =>
    dsimp only at h
    split at h
    · rename_i hq; subst hq; cases h; exact .opened
    · exact .same h
  case hSched p i b e k =>
    rcases act_of_ite_map h with ⟨rfl, A0, hA0, rfl⟩ | h
    · exact .sched hA0
    · exact .same h
  case hSkip p b e k =>
    rcases act_of_ite_map h with ⟨rfl, A0, hA0, rfl⟩ | h
    · exact .skip hA0
    · exact .same h
  case hFinish i r =>
    rcases act_of_ite_map h with ⟨hq, A0, hA0, rfl⟩ | h
    · exact .finish hq hA0
    · exact .same h
  case walWrite p b e ok =>
    rcases act_of_ite_map h with ⟨rfl, A0, hA0, rfl⟩ | h
    · exact .wal hA0
    · exact .same h
  case peEnd | peAbort => dsimp only at h; split at h <;> first | cases h | exact .same h
  all_goals exact .same h
theorem apply0_act_isSome (w : World) (l : Label) (q : Proc) :
    ((apply0 w l).act q).isSome = match l with
      | .peBegin p _ _ => q = p || (w.act q).isSome
      | .peEnd p _ _ | .peAbort p _ _ => q ≠ p && (w.act q).isSome
      | _ => (w.act q).isSome := by
  have h := congrArg Option.isSome (apply0_act w l q)
  cases l <;> first | exact h | (refine h.trans ?_; dsimp only; split <;> simp_all)

theorem apply0_rl (w : World) (l : Label) (b : BId) :
    ((apply0 w l).bus b).rl = match l with
      | .newBus b' .. => if b = b' then .none else (w.bus b).rl
      | .rlCreate b' => if b = b' then .polling else (w.bus b).rl
      | .take (.rl _) b' e => if b = b' then .took e else (w.bus b).rl
      | .peBegin (.rl _) b' _ => if b = b' then .processing else (w.bus b).rl
      | .peRecTrip (.rl b') _ _ | .peEnd (.rl b') _ _ =>
        if b = b' then (if (w.bus b).running then .polling else .exited) else (w.bus b).rl
      | .peAbort (.rl b') _ _ | .rlExit b' | .rlCancelled b' | .rlDropExit b' => if b = b' then .exited else (w.bus b).rl
      | _ => (w.bus b).rl := by
  have keep := fun h => apply0_keeps (w := w) (l := l) (f := .bus .rl) h b
  cases l
  case newBus => exact apply_ite Bus.rl _ _ _
  case rlCreate | rlCancelled => dsimp only [apply0]; simp only [modBus_proj _ Bus.rl]
  case take p b' e =>
    -- whoever takes, the queue of `b'` is shortened first; only a run loop changes its own state
    cases p <;> dsimp only [apply0] <;> simp only [modInst_eq, setInst_bus, modBus_proj _ Bus.rl, ite_self]
  case peBegin p b' e =>
    refine (peOpen_frame (peEnter w p b') p b' e (.bus .rl) (by decide) b).trans ?_
    cases p
    case rl => simp only [peEnter, setLock_bus, modBus_proj _ Bus.rl]
    all_goals rfl
  case peRecTrip p b' e =>
    cases p
    case rl => dsimp only [apply0, rlBack]; simp only [setLock_bus, modBus_proj _ Bus.rl]
    all_goals rfl
  case peEnd p b' e =>
    have h (f : BusF) (hf : f ≠ .hist ∧ f ≠ .unfinished) (b : BId) : f.same (w.bus b) ((peClose w p b' e).bus b) :=
      peClose_frame w p b' e (.bus f) (by simp [hf.1, hf.2]) b
    cases p <;> dsimp only [apply0]
    · rename_i b1
      refine (rlIdleCheck_frame _ b1 (.bus .rl) (by decide) b).trans ?_
      simp only [rlBack, setLock_bus, modBus_proj _ Bus.rl, show ∀ b, ((peClose w (.rl b1) b' e).bus b).running = _ from
        h .running (by decide), show ((peClose w (.rl b1) b' e).bus b).rl = _ from h .rl (by decide) b]
    all_goals exact h .rl (by decide) b
  case peAbort p b' e =>
    cases p
    case rl => dsimp only [apply0]; simp only [setLock_bus, modBus_proj _ Bus.rl, setAct_bus]
    all_goals rfl
  case rlExit b' =>
    dsimp only [apply0]
    refine (modBus_proj _ Bus.rl _ _ b).trans (congrArg (ite (b = b') RL.exited) ?_)
    split
    · exact rlIdleCheck_frame w b' (.bus .rl) (by decide) b
    · rfl
  case rlDropExit b' =>
    dsimp only [apply0]
    exact (modBus_proj _ Bus.rl _ _ b).trans (congrArg (ite (b = b') RL.exited) (rlIdleCheck_frame w b' (.bus .rl) (by decide) b))
  all_goals exact keep rfl

theorem apply0_took (w : World) (l : Label) (i : IId) :
    ((apply0 w l).inst i).took = match l with
      | .take (.inst j) b e => if i = j then some (b, e) else (w.inst i).took
      | .peBegin (.inst j) _ _ | .peRecTrip (.inst j) _ _ | .hSched _ j _ _ _ => if i = j then none else (w.inst i).took
      | _ => (w.inst i).took := by
  have keep := fun h => apply0_keeps (w := w) (l := l) (f := .inst .took) h i
  cases l
  case take p b e =>
    cases p
    case inst => dsimp only [apply0]; simp only [modInst_proj _ Inst.took, modBus_eq, setBus_inst]
    all_goals rfl
  case peBegin p b e =>
    refine (peOpen_frame (peEnter w p b) p b e (.inst .took) (by decide) i).trans ?_
    cases p
    case inst => simp only [peEnter, modInst_proj _ Inst.took]
    all_goals rfl
  case peRecTrip p b e =>
    cases p
    case inst => dsimp only [apply0]; simp only [modInst_proj _ Inst.took]
    all_goals rfl
  case hSched p j b e k =>
    show ((applySched w p j b e k).inst i).took = _
    unfold applySched
    split <;> exact apply_ite Inst.took _ _ _
  all_goals exact keep rfl

/-- whatever an `expect()` handler that ends tells its caller, the instances change as for any other handler -/
theorem apply0_hEnd_inst (w : World) (i : IId) (out : Out) :
    (apply0 w (.hEnd i out)).inst = (w.setInst i { w.inst i with st := .ended, out := out }).inst := by
  dsimp only [apply0]; (repeat' split) <;> rfl

theorem apply0_st (w : World) (l : Label) (i : IId) :
    ((apply0 w l).inst i).st = match l with
      | .hSched _ j _ _ _ => if i = j then .scheduled else (w.inst i).st
      | .hStart j | .hCancel j | .awaitEnd j _ | .peRecTrip (.inst j) _ _ => if i = j then .running else (w.inst i).st
      | .hEnd j _ => if i = j then .ended else (w.inst i).st
      | .hFinish j _ => if i = j then .finished else (w.inst i).st
      | .awaitBegin j c => if i = j then .awaiting c else (w.inst i).st
      | _ => (w.inst i).st := by
  have keep := fun h => apply0_keeps (w := w) (l := l) (f := .inst .st) h i
  cases l
  case hSched p j b e k =>
    show ((applySched w p j b e k).inst i).st = _
    unfold applySched
    split <;> exact (apply_ite Inst.st _ _ _)
  case hStart | hCancel | awaitEnd | awaitBegin => exact apply_ite Inst.st _ _ _
  case peRecTrip p b e => cases p <;> first | rfl | exact apply_ite Inst.st _ _ _
  case hEnd j out =>
    rw [apply0_hEnd_inst]
    exact apply_ite Inst.st _ _ _
  case hFinish j r =>
    show ((applyFinish w j r).inst i).st = _
    rw [show (applyFinish w j r).inst = (finishCore w j r).inst by
      rw [applyFinish_eq]; split
      · exact (cancelPendingChildren_frame _ _ _).inst_eq rfl
      · rfl, finishCore_inst]
    exact apply_ite Inst.st _ _ _
  all_goals exact keep rfl

/-- an accepted dispatch changes the target bus as `dEnqueue` alone does, but for the history (which `cleanup` trims) -/
theorem applyDispatch_ok_bus (w : World) (p : Proc) (b : BId) (e : EId) (f : BusF) (hf : f ≠ .hist) (b' : BId) :
    f.same ((dEnqueue w b e).bus b') ((applyDispatch w p b e .ok).bus b') := by
  have h1 : (dFwd (dPath (dParent w (ctxOf w p) e) b e) p).bus = w.bus := (dispatchHead_frame w p b e).bus_eq rfl
  have h2 : (dEnqueue (dFwd (dPath (dParent w (ctxOf w p) e) b e) p) b e).bus = (dEnqueue w b e).bus := by
    funext x; simp only [dEnqueue, modBus_eq, setBus_bus, h1]
  rw [← h2, ← (dChild_frame _ (ctxOf w p) e).bus_eq rfl]
  exact cleanup_frame _ b (.bus f) (by simpa using hf) b'

theorem apply0_queue (w : World) (l : Label) (b : BId) :
    ((apply0 w l).bus b).queue = match l with
      | .newBus b' .. => if b = b' then [] else (w.bus b).queue
      | .dispatch _ b' e .ok => if b = b' then (w.bus b).queue ++ [e] else (w.bus b).queue
      | .take _ b' _ => if b = b' then (w.bus b).queue.tail else (w.bus b).queue
      | _ => (w.bus b).queue := by
  have keep := fun h => apply0_keeps (w := w) (l := l) (f := .bus .queue) h b
  cases l
  case newBus => exact apply_ite Bus.queue _ _ _
  case dispatch p b' e res =>
    cases res
    case ok =>
      refine (applyDispatch_ok_bus w p b' e .queue (by decide) b).trans ?_
      simp only [dEnqueue, modBus_proj _ Bus.queue]
    all_goals exact dispatchHead_frame w p b' e (.bus .queue) (by decide) b
  case take p b' e =>
    cases p <;> dsimp only [apply0] <;> simp only [modInst_eq, setInst_bus, modBus_proj _ Bus.queue, ite_self]
  all_goals exact keep rfl

theorem apply0_enq (w : World) (l : Label) (b : BId) :
    ((apply0 w l).bus b).enq = match l with
      | .newBus b' .. => if b = b' then [] else (w.bus b).enq
      | .dispatch _ b' e .ok => if b = b' then (w.bus b).enq ++ [e] else (w.bus b).enq
      | _ => (w.bus b).enq := by
  have keep := fun h => apply0_keeps (w := w) (l := l) (f := .bus .enq) h b
  cases l
  case newBus => exact apply_ite Bus.enq _ _ _
  case dispatch p b' e res =>
    cases res
    case ok =>
      refine (applyDispatch_ok_bus w p b' e .enq (by decide) b).trans ?_
      simp only [dEnqueue, modBus_proj _ Bus.enq]
    all_goals exact dispatchHead_frame w p b' e (.bus .enq) (by decide) b
  all_goals exact keep rfl

theorem apply0_taken (w : World) (l : Label) (b : BId) :
    ((apply0 w l).bus b).taken = match l with
      | .newBus b' .. => if b = b' then [] else (w.bus b).taken
      | .take _ b' e => if b = b' then (w.bus b).taken ++ [e] else (w.bus b).taken
      | _ => (w.bus b).taken := by
  have keep := fun h => apply0_keeps (w := w) (l := l) (f := .bus .taken) h b
  cases l
  case newBus => exact apply_ite Bus.taken _ _ _
  case take p b' e =>
    cases p <;> dsimp only [apply0] <;> simp only [modInst_eq, setInst_bus, modBus_proj _ Bus.taken, ite_self]
  all_goals exact keep rfl

theorem apply0_walLines (w : World) (l : Label) (b : BId) :
    ((apply0 w l).bus b).walLines = match l with
      | .newBus b' .. => if b = b' then [] else (w.bus b).walLines
      | .walWrite _ b' e true => if b = b' then (w.bus b).walLines ++ [e] else (w.bus b).walLines
      | _ => (w.bus b).walLines := by
  have keep := fun h => apply0_keeps (w := w) (l := l) (f := .bus .walLines) h b
  cases l
  case newBus => exact apply_ite Bus.walLines _ _ _
  case walWrite p b' e ok =>
    cases ok <;> (dsimp only [apply0]; simp only [Bool.false_eq_true, if_false, if_true])
    · split <;> rfl
    · split <;> simp only [modBus_proj _ Bus.walLines, setAct_bus]
  all_goals exact keep rfl

/-- (the hypothesis is an arrow, not a binder: a `match l` in a statement abstracts every hypothesis in scope that mentions
    `l`, and that matcher is five times as dear to elaborate) -/
theorem guard_rl {w : World} {l : Label} : guard w l = true →
    match l with
    | .newBus b .. => b = w.nb
    | .rlCreate b => b < w.nb ∧ ((w.bus b).rl = .none ∨ (w.bus b).rl = .exited)
    | .take (.rl x) b _ => x = b ∧ b < w.nb ∧ (w.bus b).rl = .polling
    | .peBegin (.rl x) b e | .peRecTrip (.rl x) b e => x = b ∧ (w.bus b).rl = .took e ∧ w.act (.rl x) = none
    | .peEnd (.rl x) .. | .peAbort (.rl x) .. => (w.act (.rl x)).isSome = true
    | .rlExit b => (w.bus b).rl = .polling
    | .rlCancelled b | .rlDropExit b => ∃ e, (w.bus b).rl = .took e
    | _ => True := by
  intro hg
  have ha := guard_all hg
  have took {r : RL} (h : (match r with | .took _ => true | _ => false) = true) : ∃ e, r = .took e := by
    cases r <;> first | exact ⟨_, rfl⟩ | cases h
  have isOpen {x : BId} {b e} (h : actIs w (.rl x) b e = true) : (w.act (.rl x)).isSome = true := by
    obtain ⟨A, hA, _⟩ := actIs_some h; rw [hA]; rfl
  -- each case reads the check of its label that speaks of the run loop
  cases l <;> first | exact True.intro | skip
  case newBus => exact eq_of_beq ha.1
  case rlCreate =>
    obtain ⟨hb, _, hrl, _⟩ := ha
    exact ⟨of_decide_eq_true hb, by simpa using hrl⟩
  case take p _ _ =>
    cases p <;> first | exact True.intro | skip
    obtain ⟨hb, _, htaker, _⟩ := ha
    simp only [Bool.and_eq_true, beq_iff_eq] at htaker
    exact ⟨htaker.1, of_decide_eq_true hb, htaker.2⟩
  case peBegin p _ _ | peRecTrip p _ _ =>
    cases p <;> first | exact True.intro | skip
    obtain ⟨hact, htaker, _⟩ := ha
    simp only [Bool.and_eq_true, beq_iff_eq] at htaker
    exact ⟨htaker.1.1.1, htaker.1.1.2, Option.isNone_iff_eq_none.mp hact⟩
  case peEnd p _ _ | peAbort p _ _ => cases p <;> first | exact True.intro | exact isOpen ha.1
  case rlExit => exact eq_of_beq ((Bool.and_eq_true _ _).mp ha.1).1
  case rlCancelled => exact took ((Bool.and_eq_true _ _).mp ha.1).2
  case rlDropExit => exact took ((Bool.and_eq_true _ _).mp ((Bool.and_eq_true _ _).mp ha.1).1).1

end Bubus
