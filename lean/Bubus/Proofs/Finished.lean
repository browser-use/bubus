/-
  Bubus.Proofs.Finished — C10 / C11: whatever way a handler ended - it returned, raised, was cut off by its deadline or
  cancelled from further up - once its outcome has been recorded it has a terminal result on its event, in every later
  state of every run (an invariant of all reachable states). Nothing a later step does (other handlers, timeout cleanups of
  other events, completion marking, eviction) takes a recorded outcome back.
-/
import Bubus.Proofs.Once
namespace Bubus

/-- every instance whose outcome has been recorded has a terminal result on its event -/
def FinInv (w : World) : Prop :=
  ∀ j, j < w.ni → (w.inst j).st = .finished → Terminal (w.ev (w.inst j).ev) (w.inst j).bus (w.inst j).hid

theorem finished_after {w : World} {l : Label} {j : IId} (h : ((apply0 w l).inst j).st = .finished) :
    (w.inst j).st = .finished ∨ ∃ r, l = .hFinish j r := by
  rw [apply0_st] at h
  -- the new status is the old one or, for the instance the label is about, a constant: `.finished` only for `hFinish j r`
  split at h <;> (try split at h) <;> first
    | exact .inl h
    | (cases h; done)
    | exact .inr ⟨_, by subst j; rfl⟩

theorem fininv_apply0 (w : World) (l : Label) (hg : guard w l = true) (hI : FinInv w) (hO : OnceInv w) :
    FinInv (apply0 w l) := by
  intro j hj hfin
  by_cases hold : j < w.ni
  · -- an existing instance keeps its identity; it is finished because it was (and terminal results stay terminal) or
    -- because its outcome is being recorded
    have hid := apply0_inst_id w l j hold hg
    simp only [idOf, Prod.mk.injEq] at hid
    rw [hid.1, hid.2.1, hid.2.2]
    rcases finished_after hfin with h0 | ⟨r, rfl⟩
    · exact apply0_terminal w l _ _ _ (hO j hold).2 hg (hI j hold h0)
    · exact applyFinish_makes_terminal w j r (hO j hold).1
  · -- a new instance (only `hSched` creates one) is `scheduled`, not finished
    obtain ⟨_, p, b, e, k, rfl⟩ := new_inst_of_lt hg hj hold
    rw [apply0_st] at hfin
    dsimp only at hfin
    rw [if_pos rfl] at hfin
    cases hfin

theorem fininv_reachable {w : World} (hr : Reachable w) : FinInv w :=
  hr.induction0 (fun _ hj => absurd hj (Nat.not_lt_zero _)) (fun _ _ _ h => h)
    fun w l hr hI hg => fininv_apply0 w l hg hI (onceInv_reachable hr)

namespace Thm

/-- C11 (and C10): in every reachable state, a handler whose outcome has been recorded - it returned, raised, ran into its
    deadline or was cancelled - has a terminal (completed or error) result on its event for its bus; no later step of any
    run takes that back. An exception, a timeout or a cancellation ends as that handler's result, never as a result that is
    still pending or started. -/
theorem C11_a_finished_handler_has_a_terminal_result_for_ever (w : World) (hr : Reachable w) (i : IId) (hi : i < w.ni)
    (hfin : (w.inst i).st = .finished) :
    ∃ r, (w.ev (w.inst i).ev).getRes? (w.inst i).bus (w.inst i).hid = some r ∧ r.terminal = true :=
  fininv_reachable hr i hi hfin

/-- C10: in particular recording a timeout (`hFinish i errTimeout`) in a reachable state leaves instance `i` with a terminal
    result, in the state reached and in every state after it. -/
theorem C10_a_recorded_timeout_is_a_terminal_result (w w' : World) (hr : Reachable w) (i : IId)
    (hs : step w (.hFinish i .errTimeout) = some w') :
    ∃ r, (w'.ev (w'.inst i).ev).getRes? (w'.inst i).bus (w'.inst i).hid = some r ∧ r.terminal = true := by
  have hr' : Reachable w' := hr.step hs
  obtain ⟨hg, rfl⟩ := step_some hs
  obtain ⟨hlt, _⟩ := guard_all hg
  refine C11_a_finished_handler_has_a_terminal_result_for_ever _ hr' i ?_ ?_
  · rw [apply, wake_ni, apply0_ni]; exact of_decide_eq_true hlt
  · rw [apply, wake_inst, apply0_st]; exact if_pos rfl

end Thm

end Bubus
