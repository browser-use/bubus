/-
  Bubus.Proofs.HistInv — C13 as an invariant of all reachable states:
  every bus's history is duplicate-free and, for max_history_size = N ≥ 1, holds at most N events
  after every dispatch and every processing step — for all programs, schedules and histories.
-/
import Bubus.Proofs.History
namespace Bubus

theorem cleanupHist_sublist (w : World) (h : List EId) (m : Option Nat) : (cleanupHist w h m).Sublist h := by
  unfold cleanupHist
  split
  · exact List.Sublist.refl _
  · simp only []
    split
    · exact List.Sublist.refl _
    · exact List.filter_sublist

def HistOk (w : World) (b : BId) : Prop :=
  (w.bus b).hist.Nodup ∧ ∀ n, (w.bus b).maxh = some n → 0 < n → (w.bus b).hist.length ≤ n

def HistInv (w : World) : Prop := ∀ b, HistOk w b

theorem histOk_mono_eq (w w' : World) (b : BId) (hh : (w'.bus b).hist = (w.bus b).hist) (hm : (w'.bus b).maxh = (w.bus b).maxh) :
    HistOk w b → HistOk w' b := by
  unfold HistOk; rw [hh, hm]; exact id

theorem HistOk.of_bus_eq {w w' : World} {b : BId} (hI : HistOk w b) (h : w'.bus b = w.bus b) : HistOk w' b :=
  histOk_mono_eq w w' b (by rw [h]) (by rw [h]) hI

def HistInv.reads : Fld → Bool
  | .bus .hist | .bus .maxh => true
  | _ => false

theorem HistInv.agree {w w' : World} (hI : HistInv w) (h : Agree HistInv.reads w w') : HistInv w' :=
  fun b => histOk_mono_eq w w' b (h (.bus .hist) rfl b) (h (.bus .maxh) rfl b) (hI b)

/-- one bus is replaced: the invariant is asked of the new value; the other buses are as they were -/
theorem HistInv.setBus {w : World} {b : BId} {x : Bus} (hI : ∀ b', b' ≠ b → HistOk w b')
    (hx : x.hist.Nodup ∧ ∀ n, x.maxh = some n → 0 < n → x.hist.length ≤ n) : HistInv (w.setBus b x) := by
  intro b'
  by_cases hb : b' = b
  · subst hb; unfold HistOk; rw [setBus_bus_same]; exact hx
  · exact (hI b' hb).of_bus_eq (setBus_bus_other _ _ _ _ hb)

theorem HistInv.setBus_nil {w : World} {b : BId} {x : Bus} (hI : HistInv w) (hx : x.hist = []) : HistInv (w.setBus b x) :=
  HistInv.setBus (fun b' _ => hI b') (by rw [hx]; exact ⟨List.nodup_nil, fun _ _ _ => Nat.zero_le _⟩)

/-- `cleanup` restores the bound on the bus it cleans, whatever the length was before, if the history is duplicate-free -/
theorem HistInv.cleanup {w : World} {b : BId} (hn : (w.bus b).hist.Nodup) (hI : ∀ b', b' ≠ b → HistOk w b') :
    HistInv (cleanup w b) :=
  HistInv.setBus hI ⟨hn.sublist (cleanupHist_sublist _ _ _), fun n hm hpos => by
    show (cleanupHist w (w.bus b).hist (w.bus b).maxh).length ≤ n
    rw [show (w.bus b).maxh = some n from hm]
    exact Thm.C13_cleanup_brings_history_down_to_the_bound w _ n hn hpos⟩

theorem histInv_apply0 (w : World) (l : Label) (hI : HistInv w) : HistInv (apply0 w l) := by
  by_cases hw : touches l HistInv.reads = false
  · exact hI.agree ((apply0_frame w l).agree hw)
  · cases l <;> first | exact absurd rfl hw | skip
    case newBus b' par maxh wal =>
      exact (hI.setBus_nil rfl).agree ((frame_setNb _ [.nb] _ (by decide)).agree rfl)
    case dispatch p b' e res =>
      have h1 : HistInv (dFwd (dPath (dParent w (ctxOf w p) e) b' e) p) :=
        hI.agree ((dispatchHead_frame w p b' e).agree rfl)
      -- a rejected dispatch stops here; else the event is appended unless it is there already, then the history is trimmed
      cases res <;> first | exact h1 | skip
      refine HistInv.cleanup ?_ fun b hb => ?_
      · rw [dChild_bus, dEnqueue_hist]
        split
        · exact (h1 b').1
        · exact nodup_concat (h1 b').1 (mt List.contains_iff_mem.mpr ‹_›)
      · exact (h1 b).of_bus_eq (by rw [dChild_bus, dEnqueue_bus_other _ _ _ _ hb])
    case peEnd p b' e =>
      have h0 : HistInv (completeWalk w e) := hI.agree ((completeWalk_frame w e).agree rfl)
      have h1 : HistInv ((cleanup (completeWalk w e) b').setAct p none) := HistInv.cleanup (h0 b').1 fun b _ => h0 b
      have h2 : HistInv (peClose w p b' e) := by rw [peClose_eq]; exact HistInv.setBus (fun b _ => h1 b) (h1 b')
      cases p <;> dsimp only [apply0]
      · exact h2.agree ((releaseRl_frame _ _).agree rfl)
      all_goals exact h2
    case stopEnd x =>
      dsimp only [apply0]
      split
      · rename_i b' d clear _
        refine HistInv.agree ?_ ((frame_setWaiter _ [.waiter, .nx] _ _ (by decide)).agree rfl)
        have h1 : HistInv (w.modBus b' fun B => { B with cancelReq := B.rl != .exited && B.rl != .none, idle := B.created || B.idle }) :=
          HistInv.setBus (fun b _ => hI b) (hI b')
        split
        · exact h1.setBus_nil rfl
        · exact h1
      · exact hI

namespace Thm

/-- **C13, for every reachable state**: whatever the handler programs, the dispatch history, the number of buses and the
    schedule, a bus created with `max_history_size = N ≥ 1` never holds more than `N` events in its history after any
    accepted label (in particular after every dispatch and every processing step), and no event is in a history twice. -/
theorem C13_history_is_bounded_in_every_reachable_state (w : World) (hr : Reachable w) (b : BId) (n : Nat)
    (hm : (w.bus b).maxh = some n) (hpos : 0 < n) :
    (w.bus b).hist.length ≤ n ∧ (w.bus b).hist.Nodup := by
  have := hr.induction0 (P := HistInv) (fun _ => ⟨List.nodup_nil, fun _ _ _ => Nat.zero_le _⟩) (fun _ _ _ h => h)
    (fun w l _ hI _ => histInv_apply0 w l hI) b
  exact ⟨this.2 n hm hpos, this.1⟩

end Thm
end Bubus
