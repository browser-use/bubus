/-
  Bubus.Proofs.Steps — property theorems about the effect of a single step, or of one of the stages it is composed of: what
  it changes, and what it leaves alone.
-/
import Bubus.Proofs.Forward
import Bubus.Proofs.Effects
import Bubus.Proofs.Lists
namespace Bubus

/-- the parent of an event after a dispatch, whoever dispatches and whatever the outcome: only `dParent` writes it -/
theorem apply_dispatch_parent (w : World) (p : Proc) (b : BId) (e : EId) (res : DRes) (x : EId) :
    ((apply w (.dispatch p b e res)).ev x).parent =
      if x = e ∧ (w.ev e).parent = none ∧ (∃ c, ctxOf w p = some c ∧ c.1 ≠ e) then (ctxOf w p).map (·.1) else (w.ev x).parent := by
  show ((wake (applyDispatch w p b e res)).ev x).parent = _
  rw [wake_ev, ← dParent_parent]
  unfold applyDispatch
  cases res <;> simp [cleanup_ev, dChild_parent, dEnqueue_ev, dFwd_ev, dPath_parent]

theorem applyDispatch_rejected (w : World) (p : Proc) (b : BId) (e : EId) (res : DRes) (h : res ≠ .ok) :
    applyDispatch w p b e res = dFwd (dPath (dParent w (ctxOf w p) e) b e) p := by
  cases res
  case ok => exact absurd rfl h
  all_goals rfl

/-- no handler result of the event is pending -/
def noPending (w : World) (c : EId) : Prop := ∀ r ∈ (w.ev c).results, r.status ≠ .pending

/-- what `event_cancel_pending_child_processing` does to one result: a pending one becomes a cancellation error -/
def cancelRes (r : Res) : Res := if r.status == .pending then { r with status := .error, err := .cancelled } else r

theorem cancelRes_not_pending (r : Res) : (cancelRes r).status ≠ .pending := by
  unfold cancelRes
  split
  · exact nofun
  · exact mt beq_iff_eq.mpr ‹_›

theorem cancelOne_noPending (w : World) (a c : EId) (h : c = a ∨ noPending w c) :
    noPending (w.modEv a fun C => { C with results := C.results.map cancelRes }) c := by
  intro r hr
  rw [modEv_eq, setEv_ev] at hr
  split at hr
  · obtain ⟨r0, _, rfl⟩ := List.mem_map.mp hr
    exact cancelRes_not_pending r0
  · exact h.elim (fun hc => absurd hc ‹_›) (fun h => h r hr)

theorem cancelPendingChildren_noPending (w : World) (fuel : Nat) (e x : EId) (h : noPending w x) :
    noPending (cancelPendingChildren w fuel e) x :=
  cancelPendingChildren_induction (fun w a h => cancelOne_noPending w a x (.inr h)) w fuel e h

/-- the cascade over the children `cs`: afterwards none of them has a pending result (its own turn sees to that, the later
    turns keep it so), nor has an event that had none before -/
theorem cancel_fold_noPending (fuel : Nat) (c : EId) (cs : List EId) (w : World) (hc : c ∈ cs ∨ noPending w c) :
    noPending (cs.foldl (fun w c =>
      cancelPendingChildren (w.modEv c fun C => { C with results := C.results.map cancelRes }) fuel c) w) c := by
  induction cs generalizing w with
  | nil => exact hc.elim (fun h => nomatch h) id
  | cons a t ih =>
    by_cases hat : c ∈ t
    · exact ih _ (.inl hat)
    · refine ih _ (.inr (cancelPendingChildren_noPending _ fuel a c (cancelOne_noPending w a c ?_)))
      exact hc.imp (fun h => (List.mem_cons.mp h).resolve_right hat) id

theorem apply_hFinish_ev (w : World) (i : IId) (r : Fin) :
    (apply w (.hFinish i r)).ev =
      (if r == .errTimeout then cancelPendingChildren (finishCore w i r) (w.ne + 1) (w.inst i).ev else finishCore w i r).ev := by
  rw [apply, wake_ev]; rfl

namespace Thm

/-- C01: a handler is selected only if the event has no result yet for it on this bus (pending, started or terminal):
    an existing result suppresses a second run, also when the same event is dispatched to the bus again. -/
theorem C01_selected_handlers_have_no_result_yet (w : World) (b : BId) (e : EId) (r : Reg)
    (hr : r ∈ (matching (w.bus b) (w.ev e).etype).filter (passesLoopFilter (w.ev e) b)) :
    (w.ev e).hasRes b r.hid = false := by
  have hp : passesLoopFilter (w.ev e) b r = true := (List.mem_filter.mp hr).2
  simpa using ((Bool.and_eq_true _ _).mp hp).2

/-- C07: the path stays duplicate-free when a bus is appended by `dispatch`. -/
theorem C07_path_stays_duplicate_free (w : World) (b : BId) (e : EId) (h : (w.ev e).path.Nodup) :
    ((dPath w b e).ev e).path.Nodup := by
  rw [dPath_path_same]
  split
  · exact h
  · exact nodup_concat h (mt List.contains_iff_mem.mpr ‹_›)

/-- C07: a forwarding handler whose target bus is already in the event's path is never selected. -/
theorem C07_forward_to_visited_bus_is_filtered (w : World) (b : BId) (e : EId) (r : Reg) (t : BId)
    (hk : r.kind = .forward t)
    (hr : r ∈ (matching (w.bus b) (w.ev e).etype).filter (passesLoopFilter (w.ev e) b)) :
    t ∉ (w.ev e).path := by
  have hp : passesLoopFilter (w.ev e) b r = true := (List.mem_filter.mp hr).2
  simpa [hk] using ((Bool.and_eq_true _ _).mp hp).1

/-- C08: the completion signal, once set, is never unset by the completion check … -/
theorem C08_signal_is_monotone_markComplete (w : World) (e x : EId) (h : (w.ev x).signal = true) :
    ((markComplete w e).ev x).signal = true := markComplete_signal_mono w e x h

/-- … nor by the parent walk at the end of processing. -/
theorem C08_signal_is_monotone_parentWalk (w : World) (fuel : Nat) (e : EId) (seen : List EId) (x : EId)
    (h : (w.ev x).signal = true) : ((parentWalk w fuel e seen).ev x).signal = true :=
  parentWalk_signal_mono w fuel e seen x h

/-- C08 / C03: marking events complete and walking up the parent chain never touch any handler result. -/
theorem C08_completion_marking_leaves_results_alone (w : World) (fuel : Nat) (e : EId) (seen : List EId) (x : EId) :
    ((parentWalk (markComplete w e) fuel e seen).ev x).results = (w.ev x).results :=
  ((markComplete_frame w e).trans (parentWalk_frame _ fuel e seen)) (.ev .results) (by decide) x

/-- C09 (a): a dispatch from inside a handler of event `ce` gives a parentless event `e ≠ ce` the parent `ce`. -/
theorem C09_parent_from_handler (w : World) (i : IId) (b : BId) (e : EId) (res : DRes)
    (hp : (w.ev e).parent = none) (hne : (w.inst i).ev ≠ e) :
    ((apply w (.dispatch (.inst i) b e res)).ev e).parent = some (w.inst i).ev := by
  rw [apply_dispatch_parent, if_pos ⟨rfl, hp, _, rfl, hne⟩]
  rfl

/-- C09 (b): a dispatch from ordinary (non-handler) code never gives an event a parent. -/
theorem C09_no_parent_from_ordinary_code (w : World) (b : BId) (e : EId) (res : DRes) (x : EId) :
    ((apply w (.dispatch .ext b e res)).ev x).parent = (w.ev x).parent := by
  rw [apply_dispatch_parent, if_neg]
  rintro ⟨_, _, c, hc, _⟩
  cases hc

/-- C09 (c): an explicitly supplied (or earlier recorded) parent is never overwritten by a dispatch,
    whoever dispatches, whatever the outcome. -/
theorem C09_parent_never_overwritten (w : World) (p : Proc) (b : BId) (e : EId) (res : DRes) (x y : EId)
    (hp : (w.ev x).parent = some y) :
    ((apply w (.dispatch p b e res)).ev x).parent = some y := by
  rw [apply_dispatch_parent, if_neg, hp]
  rintro ⟨rfl, hn, _⟩
  cases hp.symm.trans hn

/-- C09 (d): forwarding — or any dispatch — never makes an event its own parent. -/
theorem C09_never_own_parent (w : World) (p : Proc) (b : BId) (e : EId) (res : DRes) (x : EId)
    (hp : (w.ev x).parent ≠ some x) :
    ((apply w (.dispatch p b e res)).ev x).parent ≠ some x := by
  rw [apply_dispatch_parent]
  split
  · obtain ⟨rfl, _, c, hc, hne⟩ := ‹_ ∧ _›
    rw [hc]
    exact fun h => hne (Option.some.inj h)
  · exact hp

/-- **C10**: when a handler's timeout is recorded, the handler results of the child events of its event are cancelled
    rather than left pending: afterwards no child has a pending result. -/
theorem C10_timeout_leaves_no_child_result_pending (w : World) (i : IId) (c : EId) :
    let w1 := (w.modEv (w.inst i).ev fun E => E.updRes (w.inst i).bus (w.inst i).hid fun x =>
                { x with status := Fin.errTimeout.status, err := Fin.errTimeout.err })
    c ∈ (w1.ev (w.inst i).ev).children → noPending (apply w (.hFinish i .errTimeout)) c := by
  intro w1 hc
  unfold noPending
  rw [apply_hFinish_ev, if_pos (beq_self_eq_true _)]
  unfold cancelPendingChildren
  rw [finishCore_ev]
  exact cancel_fold_noPending _ c _ _ (.inl hc)

/-- C11: recording a handler's outcome (a returned value, a raised or returned exception, a validation failure)
    touches no other event. -/
theorem C11_recording_an_outcome_touches_no_other_event (w : World) (i : IId) (r : Fin) (x : EId)
    (hr : r ≠ .errTimeout) (hx : x ≠ (w.inst i).ev) :
    ((apply w (.hFinish i r)).ev x) = w.ev x := by
  rw [apply_hFinish_ev, if_neg (by simpa using hr), finishCore_ev, modEv_eq, setEv_ev, if_neg hx]

/-- C11: … and within the handled event it changes only that handler's own result: every other handler's result
    (the siblings, on any bus) is exactly as before, in the same order. -/
theorem C11_recording_an_outcome_changes_only_its_own_result (w : World) (i : IId) (r : Fin)
    (hr : r ≠ .errTimeout) :
    (((apply w (.hFinish i r)).ev (w.inst i).ev).results.map fun y =>
        if y.hid == (w.inst i).hid && y.bus == (w.inst i).bus then none else some y) =
    ((w.ev (w.inst i).ev).results.map fun y =>
        if y.hid == (w.inst i).hid && y.bus == (w.inst i).bus then none else some y) := by
  rw [apply_hFinish_ev, if_neg (by simpa using hr), finishCore_ev, modEv_eq, setEv_ev, if_pos rfl]
  simp only [Ev.updRes, List.map_map]
  refine List.map_congr_left fun y _ => ?_
  by_cases hy : (y.hid == (w.inst i).hid && y.bus == (w.inst i).bus) = true <;> simp only [Function.comp, hy, Bool.false_eq_true, ↓reduceIte]

/-- **C11**: recording a handler's outcome — error or not — leaves the rest of the activation alone: the handlers still to
    be scheduled are exactly those that were (the remaining handlers of the event still run). -/
theorem C11_recording_an_outcome_keeps_the_remaining_handlers (w : World) (i : IId) (r : Fin) (A : Act)
    (hA : w.act (w.inst i).exec = some A) :
    ∃ A', (apply w (.hFinish i r)).act (w.inst i).exec = some A' ∧ A'.todo = A.todo ∧ A'.bus = A.bus ∧ A'.ev = A.ev := by
  refine ⟨{ A with running := A.running.erase i }, ?_, rfl, rfl, rfl⟩
  rw [apply, wake_act]
  show (applyFinish w i r).act _ = _
  rw [applyFinish_act, if_pos rfl, hA]; rfl

/-- C14: a rejected dispatch (capacity, queue full, shut down) leaves every bus exactly as it was:
    queue, history, unfinished count, idle flag, handlers — of the target bus and of every other bus. -/
theorem C14_rejected_dispatch_leaves_buses_alone (w : World) (p : Proc) (b : BId) (e : EId) (res : DRes)
    (h : res ≠ .ok) : (apply w (.dispatch p b e res)).bus = w.bus := by
  show (wake (applyDispatch w p b e res)).bus = _
  rw [wake_bus, applyDispatch_rejected w p b e res h, dFwd_bus, dPath_bus, dParent_bus]

/-- C14: a rejected dispatch is not recorded as a child of anything: all handler results (and their child lists)
    of all events are unchanged. -/
theorem C14_rejected_dispatch_records_no_child (w : World) (p : Proc) (b : BId) (e : EId) (res : DRes)
    (h : res ≠ .ok) (x : EId) : ((apply w (.dispatch p b e res)).ev x).results = (w.ev x).results := by
  show ((wake (applyDispatch w p b e res)).ev x).results = _
  rw [wake_ev, applyDispatch_rejected w p b e res h, dFwd_ev, dPath_results, dParent_results]

/-- C14: an accepted dispatch puts the event at the tail of the bus's queue. -/
theorem C14_accepted_dispatch_enqueues (w : World) (p : Proc) (b : BId) (e : EId) :
    ((apply w (.dispatch p b e .ok)).bus b).queue =
      (w.bus b).queue ++ [e] := by
  rw [apply, wake_bus, apply0_queue]
  exact if_pos rfl

/-- C17: a successful WAL write appends exactly the processed event to that bus's log; a failed one changes no log. -/
theorem C17_wal_write_appends_one_line (w : World) (p : Proc) (b : BId) (e : EId) (ok : Bool) :
    ((apply w (.walWrite p b e ok)).bus b).walLines = if ok then (w.bus b).walLines ++ [e] else (w.bus b).walLines := by
  rw [apply, wake_bus, apply0_walLines]
  cases ok <;> simp

/-- C17: a WAL write, failing or not, does not touch any event (results, status, signal, lineage). -/
theorem C17_wal_write_does_not_touch_events (w : World) (p : Proc) (b : BId) (e : EId) (ok : Bool) :
    (apply w (.walWrite p b e ok)).ev = w.ev :=
  (wake_ev _).trans ((apply0_frame w _).ev_eq rfl)

end Thm
end Bubus
