/-
  Bubus.Proofs.NoSkip — C01 (no handler is skipped) as an invariant of all reachable states: every handler selected when an
  activation began is still on its to-do list, or has a live instance in the activation, or has a terminal result; so when
  the activation ends normally every selected handler has run to a terminal result.
-/
import Bubus.Proofs.Once
import Bubus.Proofs.PathReach
namespace Bubus

/-- handler `k` of activation `A` has been dealt with: it has a terminal result, or a live instance of the activation runs it -/
def Done (w : World) (A : Act) (k : HId) : Prop :=
  Terminal (w.ev A.ev) A.bus k ∨ ∃ i, i ∈ A.running ∧ i < w.ni ∧ idOf (w.inst i) = (A.ev, A.bus, k)

/-- an open activation is in order: every selected handler is still to do or has been dealt with -/
def ActOk (w : World) (A : Act) : Prop := ∀ k, k ∈ A.sel → k ∈ A.todo ∨ Done w A k

def NSInv (w : World) : Prop := ∀ p A, w.act p = some A → ActOk w A

/-- an activation that a label leaves as it is stays in order: results on its event, which exists, stay terminal, and
    instances keep their identity -/
theorem ActOk.step {w : World} {A : Act} (h : ActOk w A) (he : A.ev < w.ne) (l : Label) (hg : guard w l = true) :
    ActOk (apply0 w l) A := by
  refine fun k hk => (h k hk).imp_right ?_
  rintro (ht | ⟨i, hi, hlt, hid⟩)
  · exact .inl (apply0_terminal w l _ _ _ he hg ht)
  · exact .inr ⟨i, hi, Nat.lt_of_lt_of_le hlt (apply0_ni_mono w l), by rw [apply0_inst_id w l i hlt hg]; exact hid⟩

/-- an activation rewritten within one world stays in order if what leaves the to-do list is dealt with and what was dealt
    with stays so -/
theorem ActOk.update {w' : World} {A A' : Act} (h : ActOk w' A) (hsel : A'.sel = A.sel)
    (htodo : ∀ k, k ∈ A.todo → k ∈ A'.todo ∨ Done w' A' k) (hdone : ∀ k, Done w' A k → Done w' A' k) : ActOk w' A' :=
  fun k hk => (h k (hsel ▸ hk)).elim (htodo k) fun hd => .inr (hdone k hd)

/-- `hev`: the event of every open activation exists (`act_enqueued`; the guard of `peBegin` does not say so) -/
theorem nsinv_apply0 (w : World) (l : Label) (hg : guard w l = true) (hI : NSInv w) (hO : OnceInv w)
    (hev : ∀ p A, w.act p = some A → A.ev < w.ne) : NSInv (apply0 w l) := by
  -- every activation that was open, seen in the new world
  have old : ∀ p A, w.act p = some A → ActOk (apply0 w l) A := fun p A hA => (hI p A hA).step (hev p A hA) l hg
  intro q A hA
  cases act_origin hA with
  | same hA => exact old q A hA
  | opened => exact fun _ => .inl -- everything selected is to do
  | @sched i b e k A0 hA0 =>
    -- the scheduled handler is accounted for by its new instance
    obtain ⟨hi, _, hact, _, hhead, _⟩ := guard_all hg
    simp only [actIs, hA0, Bool.and_eq_true, beq_iff_eq] at hi hact hhead
    subst hi
    obtain ⟨r, hr, _⟩ := hSched_pending hg
    have hid := (hSched_new_instance w q b e k r hr).2
    refine (old q A0 hA0).update rfl (fun k' hk' => ?_)
      fun k' => Or.imp id fun ⟨j, hj, hid⟩ => ⟨j, List.mem_append_left _ hj, hid⟩
    rcases mem_tail_of_head? hhead hk' with rfl | ht
    · refine .inr (.inr ⟨w.ni, by simp, ?_, by rw [hid, hact.1, hact.2]⟩)
      rw [apply0_ni]; exact Nat.lt_succ_self _
    · exact .inl ht
  | @skip b e k A0 hA0 =>
    -- the handler passed over has a terminal result (the guard), which accounts for it
    obtain ⟨hact, _, hhead, _⟩ := guard_all hg
    simp only [actIs, hA0, Bool.and_eq_true, beq_iff_eq] at hact hhead
    have hT : Terminal (w.ev A0.ev) A0.bus k := by rw [hact.1, hact.2]; exact hSkip_terminal hg
    refine (old q A0 hA0).update rfl (fun k' hk' => ?_) fun _ => id
    rcases mem_tail_of_head? hhead hk' with rfl | ht
    · exact .inr (.inl (apply0_terminal w _ _ _ _ (hev q A0 hA0) hg hT))
    · exact .inl ht
  | @finish i r A0 _ hA0 =>
    -- the finished instance leaves the running list; if it accounted for a handler, that handler's result is terminal now
    refine (old _ A0 hA0).update rfl (fun _ => .inl) fun k hk => ?_
    rcases hk with ht | ⟨j, hj, hlt, hid⟩
    · exact .inl ht
    · by_cases hji : j = i
      · subst hji
        have hi : j < w.ni := by rw [apply0_ni] at hlt; exact hlt
        rw [apply0_inst_id w _ j hi hg] at hid
        simp only [idOf, Prod.mk.injEq] at hid
        obtain ⟨e1, e2, e3⟩ := hid
        exact .inl (by have := applyFinish_makes_terminal w j r (hO j hi).1; rwa [e1, e2, e3] at this)
      · exact .inr ⟨j, (List.mem_erase_of_ne hji).mpr hj, hlt, hid⟩
  | wal hA0 => exact (old q _ hA0).update rfl (fun _ => .inl) fun _ => id

theorem nsinv_reachable {w : World} (hr : Reachable w) : NSInv w :=
  hr.induction0 (fun _ _ h => (by cases h)) (fun _ _ _ h => h) fun w l hr hI hg =>
    nsinv_apply0 w l hg hI (onceInv_reachable hr) fun _ _ hA => (enqPath_reachable hr _ _ (act_enqueued hr hA)).1

namespace Thm

/-- C01, "no handler is skipped", for every reachable state: in every open activation each handler that was selected when the
    activation began is still on its to-do list, or is being run by a live instance of this activation, or already has a
    terminal result on the event. Nothing selected is ever lost from all three. -/
theorem C01_a_selected_handler_is_never_lost (w : World) (hr : Reachable w) (p : Proc) (A : Act) (hA : w.act p = some A)
    (k : HId) (hk : k ∈ A.sel) :
    k ∈ A.todo ∨ (∃ i, i ∈ A.running ∧ (w.inst i).ev = A.ev ∧ (w.inst i).bus = A.bus ∧ (w.inst i).hid = k) ∨
      (∃ r, (w.ev A.ev).getRes? A.bus k = some r ∧ r.terminal = true) := by
  rcases nsinv_reachable hr p A hA k hk with h | ht | ⟨i, hi, _, hid⟩
  · exact .inl h
  · exact .inr (.inr ht)
  · simp only [idOf, Prod.mk.injEq] at hid
    exact .inr (.inl ⟨i, hi, hid⟩)

theorem worked_off_terminal {w : World} (hr : Reachable w) {p : Proc} {A : Act} (hA : w.act p = some A)
    (htodo : A.todo = []) (hrun : A.running = []) (k : HId) (hk : k ∈ A.sel) :
    ∃ r, (w.ev A.ev).getRes? A.bus k = some r ∧ r.terminal = true := by
  rcases C01_a_selected_handler_is_never_lost w hr p A hA k hk with h | ⟨i, hi, _⟩ | h
  · rw [htodo] at h; cases h
  · rw [hrun] at hi; cases hi
  · exact h

/-- C01, "no handler is skipped": when an activation ends normally in a reachable state (`peEnd` is enabled only with an
    empty to-do list and no running instance), every handler selected at its beginning has a terminal result on the event. -/
theorem C01_an_activation_ends_only_after_every_selected_handler_has_a_terminal_result (w w' : World) (hr : Reachable w)
    (p : Proc) (b : BId) (e : EId) (hs : step w (.peEnd p b e) = some w') :
    ∃ A, w.act p = some A ∧ A.bus = b ∧ A.ev = e ∧
      ∀ k, k ∈ A.sel → ∃ r, (w.ev e).getRes? b k = some r ∧ r.terminal = true := by
  obtain ⟨A, hA, hb, he, htodo, hrun⟩ := C01_activation_ends_only_when_every_selected_handler_finished w w' p b e hs
  exact ⟨A, hA, hb, he, fun k hk => hb ▸ he ▸ worked_off_terminal hr hA htodo hrun k hk⟩

/-- **C01 / C18**: a handler selected for an activation (an `expect()` subscriber included) is passed over only when its
    result on the event is already terminal - made so by a recorded mechanism (a timeout cleanup further up). -/
theorem C01_a_selected_handler_is_passed_over_only_with_a_terminal_result (w w' : World) (p : Proc) (b : BId) (e : EId) (k : HId)
    (hs : step w (.hSkip p b e k) = some w') :
    ∃ r, (w.ev e).getRes? b k = some r ∧ r.terminal = true :=
  hSkip_terminal (step_some hs).1

/-- **C17** ("after that event's handlers on that bus have finished"): in a reachable state the WAL line of an activation is
    written only when every handler selected for it at its beginning has a terminal result on the event, none is left on the
    to-do list and none is running. -/
theorem C17_the_wal_line_is_written_after_every_selected_handler_has_finished (w w' : World) (hr : Reachable w)
    (p : Proc) (b : BId) (e : EId) (ok : Bool) (hs : step w (.walWrite p b e ok) = some w') :
    ∃ A, w.act p = some A ∧ A.bus = b ∧ A.ev = e ∧ A.todo = [] ∧ A.running = [] ∧
      ∀ k, k ∈ A.sel → ∃ r, (w.ev e).getRes? b k = some r ∧ r.terminal = true := by
  obtain ⟨hact, hout, _⟩ := guard_all (step_some hs).1
  obtain ⟨A, hA, hb, he, htodo, hrun⟩ := act_worked_off hact hout
  exact ⟨A, hA, hb, he, htodo, hrun, fun k hk => hb ▸ he ▸ worked_off_terminal hr hA htodo hrun k hk⟩

end Thm

end Bubus
