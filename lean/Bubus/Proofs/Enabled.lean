/-
  Bubus.Proofs.Enabled — the "does return / is never blocked" halves, as far as they are statements about single states:
  in which states the returning transition of a blocking call is enabled (the model never withholds it); that such a
  state is reached is liveness, established on real runs at quiescence (DESIGN §2.6). With them, what a return or a
  beginning then means for the state: the completion signal is set only for a finished tree (C03), `stop()` leaves the
  run loop finished or cancelled (C16), beginning an activation selects every matching handler (C01).
-/
import Bubus.Proofs.Guards
namespace Bubus

/-- the return of `stop()` is enabled exactly as its guard says: the run loop has finished, or the grace period is over -/
theorem stop_return_enabled {w : World} {x : Nat} {b : BId} {d : Nat} {clear : Bool} (hw : w.waiter x = .stopping b d clear)
    (h : (w.bus b).rl = .exited ∨ (w.bus b).rl = .none ∨ d ≤ w.now) : guard w (.stopEnd x) = true :=
  guard_of_all ⟨by rw [hw]; simpa [or_assoc] using h, trivial⟩

namespace Thm

/-- **C04 (no deadlock against the own bus)**: a handler suspended in `await child` with nothing in hand can take the head
    of *any* bus's queue — its own bus's included — whoever holds the global lock: the await does not depend on the run
    loop that is running the handler. -/
theorem C04_awaiting_handler_can_take_any_queue_head (w : World) (i : IId) (c : EId) (b : BId) (e : EId)
    (hb : b < w.nb) (hq : (w.bus b).queue.head? = some e) (hst : (w.inst i).st = .awaiting c)
    (hact : w.act (.inst i) = none) (htk : (w.inst i).took = none) (hsig : (w.ev c).signal = false) :
    guard w (.take (.inst i) b e) = true :=
  guard_of_all ⟨decide_eq_true hb, beq_iff_eq.mpr hq, by dsimp only; rw [hst, hact, htk]; exact congrArg (!·) hsig, trivial⟩

/-- **C04**: … and having taken it, processing it inline is enabled at once (or the recursion guard trips — finding F2);
    neither needs the lock. -/
theorem C04_inline_processing_of_a_taken_event_is_enabled (w : World) (i : IId) (b : BId) (e : EId)
    (hact : w.act (.inst i) = none) (htk : (w.inst i).took = some (b, e)) :
    guard w (.peBegin (.inst i) b e) = true ∨ guard w (.peRecTrip (.inst i) b e) = true := by
  have hact := congrArg Option.isNone hact
  have htk := beq_iff_eq.mpr htk
  cases hr : recursionTrips w b e
  · exact .inl (guard_of_all ⟨hact, htk, congrArg (!·) hr, rfl, trivial⟩)
  · exact .inr (guard_of_all ⟨hact, htk, hr, rfl, trivial⟩)

/-- **C04**: the await itself returns as soon as the child is signalled (nothing in hand). -/
theorem C04_await_return_is_enabled_once_the_child_is_signalled (w : World) (i : IId) (c : EId)
    (hi : i < w.ni) (hst : (w.inst i).st = .awaiting c) (hact : w.act (.inst i) = none) (htk : (w.inst i).took = none)
    (hsig : (w.ev c).signal = true) : guard w (.awaitEnd i c) = true :=
  guard_of_all ⟨decide_eq_true hi, beq_iff_eq.mpr hst, by rw [hact, htk]; rfl, by rw [hsig]; rfl, trivial⟩

/-- **C15 (return side)**: a `wait_until_idle()` that has reached its final test returns as soon as the bus's idle flag
    is set and its history holds no pending or started event; otherwise it re-waits (it is never stuck in the test). -/
theorem C15_final_test_either_returns_or_rewaits (w : World) (x : Nat) (b : BId) (hw : w.waiter x = .check b) :
    (guard w (.wiEnd x) = true ∧ (w.bus b).idle = true ∧ histAllComplete w b = true) ∨ guard w (.wiRecheck x) = true := by
  cases h : (w.bus b).idle && histAllComplete w b
  · exact .inr (guard_of_all ⟨by rw [hw]; exact congrArg (!·) h, trivial⟩)
  · exact .inl ⟨guard_of_all ⟨by rw [hw]; exact h, trivial⟩, (Bool.and_eq_true _ _).mp h⟩

/-- **C16 (bounded return)**: `stop()` is enabled to return from the moment its run loop has finished or its grace period
    is over — and time cannot pass that moment without it returning (`C16_time_never_passes_the_stop_deadline`). -/
theorem C16_stop_return_is_enabled_at_the_deadline (w : World) (x : Nat) (b : BId) (d : Nat) (clear : Bool)
    (hw : w.waiter x = .stopping b d clear) (hd : d ≤ w.now) : guard w (.stopEnd x) = true :=
  stop_return_enabled hw (.inr (.inr hd))

/-- **C18 (timeout)**: an `expect()` without a match is enabled to raise `TimeoutError` from its deadline on, and time
    cannot pass the deadline of an unresolved, not yet cancelled call (guard of `tick`). -/
theorem C18_timeout_is_enabled_at_the_deadline (w : World) (x : Nat) (b : BId) (key : Key) (k : HId) (d : Nat)
    (g : Option EId) (dead : Bool) (hw : w.waiter x = .expecting b key k (some d) g dead) (hd : d ≤ w.now) :
    guard w (.expectEnd x none) = true :=
  guard_of_all ⟨by rw [hw]; exact decide_eq_true hd, trivial⟩

/-- **C03 / C04 (what a return means)**: the completion check sets an event's completion signal only when the whole tree is
    done at that moment — every handler result of the event terminal and every event dispatched by its handlers,
    transitively and on any bus, complete. (Awaits return on that signal: `C03_external_await_needs_signal`,
    `C04_await_returns_signalled_or_gave_up`.) -/
theorem C03_completion_is_signalled_only_for_a_finished_tree (w : World) (e : EId)
    (h0 : (w.ev e).signal = false) (h1 : ((markComplete w e).ev e).signal = true) : treeDone w e = true := by
  rw [markComplete_eq] at h1
  split at h1
  · exact ‹_ ∧ _›.2
  · rw [h0] at h1; cases h1

/-- **C16**: when `stop()` returns, the bus's run loop has finished, or never existed, or its cancellation has been
    requested — and a run loop whose cancellation is requested begins no activation and schedules no handler
    (`C16_cancelled_run_loop_begins_no_activation`, `C16_cancelled_run_loop_schedules_no_handler`): after `stop()`
    the bus's own run loop starts no handler. -/
theorem C16_stop_leaves_the_run_loop_finished_or_cancelled (w w' : World) (x : Nat)
    (hs : step w (.stopEnd x) = some w') :
    ∃ b d c, w.waiter x = .stopping b d c ∧
      ((w'.bus b).rl = .exited ∨ (w'.bus b).rl = .none ∨ (w'.bus b).cancelReq = true) := by
  obtain ⟨b, d, c, hw, _⟩ := C16_stop_returns_when_loop_done_or_grace_over w w' x hs
  obtain ⟨_, rfl⟩ := step_some hs
  refine ⟨b, d, c, hw, ?_⟩
  have hrl : ((apply w (.stopEnd x)).bus b).rl = (w.bus b).rl := by rw [apply, wake_bus, apply0_rl]
  have hcr : ((apply w (.stopEnd x)).bus b).cancelReq = ((w.bus b).rl != .exited && (w.bus b).rl != .none) := by
    (dsimp only [apply, apply0]; simp only [hw])
    cases c <;> simp
  rw [hrl, hcr]
  exact Decidable.or_iff_not_imp_left.mpr fun h1 => Decidable.or_iff_not_imp_left.mpr fun h2 =>
    (Bool.and_eq_true _ _).mpr ⟨bne_iff_ne.mpr h1, bne_iff_ne.mpr h2⟩

/-- **C01 (delivery, local form)**: when a bus begins processing an event, every handler registered on it whose pattern
    matches the event's type (its name / class, or the wildcard) and which has no result on that event yet — and, for a
    forwarding handler, whose target bus is not on the event's path yet — is selected for the activation. -/
theorem C01_every_matching_handler_without_a_result_is_selected (w : World) (b : BId) (e : EId) (r : Reg)
    (hr : r ∈ (w.bus b).handlers) (hkey : r.key = (w.ev e).etype ∨ r.key = 0)
    (hno : (w.ev e).hasRes b r.hid = false)
    (hfw : ∀ t, r.kind = .forward t → (w.ev e).path.contains t = false) :
    r.hid ∈ applicable w b e := by
  refine List.mem_eraseDups.mpr (List.mem_map.mpr ⟨r, List.mem_filter.mpr ⟨?_, ?_⟩, rfl⟩)
  · exact List.mem_append.mpr (hkey.imp (fun h => List.mem_filter.mpr ⟨hr, beq_iff_eq.mpr h⟩)
      fun h => List.mem_filter.mpr ⟨hr, beq_iff_eq.mpr h⟩)
  · refine (Bool.and_eq_true _ _).mpr ⟨?_, by rw [hno]; rfl⟩
    split
    · simpa using hfw _ ‹_›
    · rfl

/-- **C01**: … and beginning the activation creates a (pending) result for each selected handler and puts exactly these
    handlers on the activation's to-do list (which `C01_activation_ends_only_when_every_selected_handler_finished` requires
    to be worked off before the activation ends) and in its ghost list `sel` of selected handlers, which never changes
    afterwards and which the no-skip invariant (`Proofs/NoSkip.lean`) speaks about. -/
theorem C01_begin_lists_exactly_the_selected_handlers (w : World) (p : Proc) (b : BId) (e : EId) :
    let w1 := peEnter w p b
    ∃ A, (apply w (.peBegin p b e)).act p = some A ∧ A.todo = applicable w1 b e ∧ A.sel = applicable w1 b e ∧
      A.bus = b ∧ A.ev = e ∧ A.running = [] := by
  intro w1
  refine ⟨{ bus := b, ev := e, todo := applicable w1 b e, running := [], sel := applicable w1 b e }, ?_, rfl, rfl, rfl, rfl, rfl⟩
  rw [apply, wake_act, apply0_act]
  exact if_pos rfl

end Thm
end Bubus
