/-
  Bubus.Proofs.Sem — C20, the semaphore wrapper of the `retry` decorator: slot accounting over all action sequences (at
  most `limit` holders); whoever is inside the wrapped function holds a slot or entered as a lax caller after an
  acquisition timeout, so at most `limit` executions are in progress, exceeded only by lax entrants; a slot is released
  exactly once; the scope keys ("different scopes do not block each other").
-/
import Bubus.Model.Retry
import Bubus.Proofs.Lists
namespace Bubus.Retry

theorem sstep_some {s s' : Sem} {l : SLabel} (h : sstep s l = some s') : sguard s l = true ∧ sapply s l = s' := by
  unfold sstep at h
  split at h
  · exact ⟨‹_›, Option.some.inj h⟩
  · cases h

theorem sguard_iff {s : Sem} {l : SLabel} : sguard s l = true ↔ match l with
    | .call c _ => s.phase c = .done ∧ c ∉ s.inBody
    | .acquired c => s.phase c = .waiting ∧ 0 < s.value
    | .acqTimeout c | .cancelWaiting c => s.phase c = .waiting
    | .bodyStart c => (s.phase c = .holding ∨ s.phase c = .laxEntered) ∧ c ∉ s.inBody
    | .bodyEnd c => c ∈ s.inBody
    | .finish c r =>
      c ∉ s.inBody ∧ (s.phase c = .holding ∨ s.phase c = .laxEntered) ∧ r = (s.phase c == .holding) := by
  cases l <;> simp [sguard, and_assoc]

def SLabel.caller : SLabel → Nat
  | .call c _ | .acquired c | .acqTimeout c | .cancelWaiting c | .bodyStart c | .bodyEnd c | .finish c _ => c

theorem sapply_acqTimeout (s : Sem) (c : Nat) :
    sapply s (.acqTimeout c) = s.setPhase c (if s.lax c then .laxEntered else .done) :=
  (apply_ite (s.setPhase c) ..).symm

theorem sapply_phase_of_ne {s : Sem} {l : SLabel} {x : Nat} (h : x ≠ l.caller) : (sapply s l).phase x = s.phase x := by
  cases l with
  | acqTimeout c => rw [sapply_acqTimeout]; exact if_neg h
  | bodyStart c | bodyEnd c => rfl
  | _ => exact if_neg h

theorem sapply_ncallers (s : Sem) (l : SLabel) : s.ncallers ≤ (sapply s l).ncallers := by
  cases l with
  | call c lax => exact Nat.le_max_left ..
  | acqTimeout c => rw [sapply_acqTimeout]; exact Nat.le_refl _
  | _ => exact Nat.le_refl _

/-- what an action does to the semaphore's value and to its caller's holding of a slot cancel out -/
theorem sapply_balance {s : Sem} {l : SLabel} (hg : sguard s l = true) :
    (sapply s l).value + (if (sapply s l).phase l.caller = .holding then 1 else 0) =
      s.value + (if s.phase l.caller = .holding then 1 else 0) := by
  cases l with
  | bodyStart c | bodyEnd c => rfl
  | call c lax =>
    simp only [SLabel.caller, sapply, Sem.setPhase, (sguard_iff.mp hg).1, ↓reduceIte, reduceCtorEq]
  | acquired c =>
    have h := sguard_iff.mp hg
    simp only [SLabel.caller, sapply, Sem.setPhase, h.1, ↓reduceIte, reduceCtorEq]
    omega
  | acqTimeout c =>
    rw [sapply_acqTimeout]
    cases s.lax c <;>
      simp only [SLabel.caller, Sem.setPhase, sguard_iff.mp hg, ↓reduceIte, reduceCtorEq]
  | cancelWaiting c =>
    simp only [SLabel.caller, sapply, Sem.setPhase, sguard_iff.mp hg, ↓reduceIte, reduceCtorEq]
  | finish c r =>
    obtain ⟨-, h | h, rfl⟩ := sguard_iff.mp hg <;> simp [SLabel.caller, sapply, Sem.setPhase, h]

theorem holders_length (s : Sem) : (holders s).length = (List.range s.ncallers).countP (s.phase · == .holding) :=
  List.countP_eq_length_filter.symm

/-- `L` slots in all: the free ones and those held by the callers seen so far -/
structure Inv (L : Nat) (s : Sem) : Prop where
  slots : s.value + (holders s).length = L
  known : ∀ c, s.ncallers ≤ c → s.phase c = .done

theorem inv_init (L : Nat) : Inv L { limit := L, value := L } :=
  ⟨rfl, fun _ _ => rfl⟩

theorem inv_step {L : Nat} {s : Sem} {l : SLabel} (hI : Inv L s) (hg : sguard s l = true) : Inv L (sapply s l) := by
  have hn := sapply_ncallers s l
  have known' : ∀ x, (sapply s l).ncallers ≤ x → (sapply s l).phase x = .done := by
    intro x hx
    have h0 := hI.known x (Nat.le_trans hn hx)
    by_cases hxc : x = l.caller
    · subst hxc
      cases l with
      | call c lax => exact absurd (Nat.lt_of_lt_of_le (Nat.lt_succ_self c) (Nat.le_max_right ..)) (Nat.not_lt_of_le hx)
      | bodyStart c | bodyEnd c => exact h0
      | cancelWaiting c | finish c r => exact if_pos rfl
      | acquired c => exact absurd ((sguard_iff.mp hg).1.symm.trans h0) nofun
      | acqTimeout c => exact absurd ((sguard_iff.mp hg).symm.trans h0) nofun
    · rwa [sapply_phase_of_ne hxc]
  refine ⟨?_, known'⟩
  -- count the holders of both states among the callers the new state has seen
  have hE := countP_range_extend (s.phase · == .holding) hn fun x hx => by rw [hI.known x hx]; rfl
  have hU := countP_range_update (s.phase · == .holding) ((sapply s l).phase · == .holding) l.caller
    (fun x hx => by rw [sapply_phase_of_ne hx])
    (fun h => by rw [hI.known _ (Nat.le_trans hn h)]; rfl) (fun h => by rw [known' _ h]; rfl)
  have hB := sapply_balance hg
  have hs := hI.slots
  rw [holders_length] at hs ⊢
  simp only [beq_iff_eq] at hU
  omega

def srun (s : Sem) : List SLabel → Option Sem
  | [] => some s
  | l :: ls => match sstep s l with
    | some s' => srun s' ls
    | none => none

theorem srun_induct {P : Sem → Prop} (hstep : ∀ s l, P s → sguard s l = true → P (sapply s l))
    {s s' : Sem} {ls : List SLabel} (h0 : P s) (h : srun s ls = some s') : P s' := by
  induction ls generalizing s with
  | nil => exact Option.some.inj h ▸ h0
  | cons l ls ih =>
    unfold srun at h
    split at h
    · rename_i s1 hs
      obtain ⟨hg, rfl⟩ := sstep_some hs
      exact ih (hstep s l h0 hg) h
    · cases h

structure BodyInv (s : Sem) : Prop where
  slot : ∀ c ∈ s.inBody, s.phase c = .holding ∨ s.phase c = .laxEntered
  nodup : s.inBody.Nodup

theorem bodyInv_init (L : Nat) : BodyInv { limit := L, value := L } :=
  ⟨nofun, List.nodup_nil⟩

theorem bodyInv_step {s : Sem} {l : SLabel} (hI : BodyInv s) (hg : sguard s l = true) : BodyInv (sapply s l) := by
  -- an action that leaves `inBody` alone, of a caller who is not inside, changes nothing for those inside
  have frame : l.caller ∉ s.inBody → (sapply s l).inBody = s.inBody → BodyInv (sapply s l) := fun hc hb =>
    ⟨fun c' hc' => by
      rw [hb] at hc'
      rw [sapply_phase_of_ne fun e => hc (e ▸ hc')]
      exact hI.slot c' hc', hb ▸ hI.nodup⟩
  -- a caller who waits for a slot is not inside
  have notIn : ∀ c, s.phase c = .waiting → c ∉ s.inBody := fun c hw hin => by
    have := hI.slot c hin
    rw [hw] at this
    exact this.elim nofun nofun
  cases l with
  | call c lax => exact frame (sguard_iff.mp hg).2 rfl
  | acquired c => exact frame (notIn c (sguard_iff.mp hg).1) rfl
  | acqTimeout c => exact frame (notIn c (sguard_iff.mp hg)) (by rw [sapply_acqTimeout]; rfl)
  | cancelWaiting c => exact frame (notIn c (sguard_iff.mp hg)) rfl
  | finish c r => exact frame (sguard_iff.mp hg).1 rfl
  | bodyStart c =>
    obtain ⟨hph, hnin⟩ := sguard_iff.mp hg
    refine ⟨fun c' hc' => ?_, nodup_concat hI.nodup hnin⟩
    rcases List.mem_append.mp hc' with h | h
    · exact hI.slot c' h
    · rw [List.mem_singleton.mp h]; exact hph
  | bodyEnd c => exact ⟨fun c' hc' => hI.slot c' (List.mem_of_mem_erase hc'), hI.nodup.erase c⟩

end Bubus.Retry

namespace Bubus.Thm
open Bubus.Retry

/-- C20: for every sequence of wrapper actions (any number of callers, any outcomes, timeouts and cancellations)
    the free slots plus the callers holding a slot always equal the limit: no slot leaks, none is released twice. -/
theorem C20_slots_never_leak (L : Nat) (ls : List SLabel) (s : Sem)
    (h : srun { limit := L, value := L } ls = some s) : s.value + (holders s).length = L :=
  (srun_induct (fun _ _ => inv_step) (inv_init L) h).slots

/-- C20: at most `limit` callers hold a slot at any time. -/
theorem C20_at_most_limit_holders (L : Nat) (ls : List SLabel) (s : Sem)
    (h : srun { limit := L, value := L } ls = some s) : (holders s).length ≤ L := by
  have := C20_slots_never_leak L ls s h
  omega

/-- C20: a caller enters the wrapped function only while holding a slot, or as a lax entrant after an acquisition timeout;
    a non-lax caller whose acquisition times out never runs the function. -/
theorem C20_body_needs_slot_or_lax_timeout (s s' : Sem) (c : Nat) (h : sstep s (.bodyStart c) = some s') :
    s.phase c = .holding ∨ s.phase c = .laxEntered :=
  (sguard_iff.mp (sstep_some h).1).1

theorem C20_nonlax_timeout_never_runs (s : Sem) (c : Nat) (hl : s.lax c = false) :
    (sapply s (.acqTimeout c)).phase c = .done := by
  rw [sapply_acqTimeout, hl]
  exact if_pos rfl

/-- C20: for every sequence of wrapper actions, every caller that is inside the wrapped function holds a slot or is a
    lax entrant (its acquisition timed out under `semaphore_lax`), and no caller is inside twice. -/
theorem C20_inside_the_function_only_with_a_slot_or_as_lax_entrant (L : Nat) (ls : List SLabel) (s : Sem)
    (h : srun { limit := L, value := L } ls = some s) :
    (∀ c ∈ s.inBody, s.phase c = .holding ∨ s.phase c = .laxEntered) ∧ s.inBody.Nodup :=
  have hb := srun_induct (fun _ _ => bodyInv_step) (bodyInv_init L) h
  ⟨hb.slot, hb.nodup⟩

/-- C20: the concurrency bound — the executions in progress that are not lax entrants number at most `limit`:
    the limit is exceeded only in the documented case. -/
theorem C20_at_most_limit_executions_apart_from_lax_entrants (L : Nat) (ls : List SLabel) (s : Sem)
    (h : srun { limit := L, value := L } ls = some s) :
    ((List.range s.ncallers).countP fun c => s.inBody.contains c && !(s.phase c == .laxEntered)) ≤ L := by
  have hb := C20_inside_the_function_only_with_a_slot_or_as_lax_entrant L ls s h
  have hl := C20_at_most_limit_holders L ls s h
  rw [holders_length] at hl
  refine Nat.le_trans ?_ hl
  apply List.countP_mono_left
  intro c _ hc
  simp only [Bool.and_eq_true, List.contains_eq_mem, decide_eq_true_eq, Bool.not_eq_true', beq_eq_false_iff_ne] at hc
  rcases hb.1 c hc.1 with h1 | h1
  · simp [h1]
  · exact absurd h1 hc.2

/-- C20: two instances use the same `self`-scoped semaphore exactly when the semaphore name and the instance agree. -/
theorem C20_self_scope_keys_separate_instances (n n' c c' i i' : Nat) :
    semKey .self n true c i = semKey .self n' true c' i' ↔ n = n' ∧ i = i' := by
  simp only [semKey, if_true, Prod.mk.injEq, true_and]
  exact and_comm

/-- C20: two calls use the same `class`-scoped semaphore exactly when the name and the class agree (the instance is
    irrelevant: all instances of a class share it). -/
theorem C20_class_scope_keys_separate_classes (n n' c c' i i' : Nat) :
    semKey .cls n true c i = semKey .cls n' true c' i' ↔ n = n' ∧ c = c' := by
  simp only [semKey, if_true, Prod.mk.injEq, true_and]
  exact and_comm

/-- C20: the global scope has one semaphore per name, whoever calls. -/
theorem C20_global_scope_key_is_the_name (n n' c c' i i' : Nat) (a a' : Bool) :
    semKey .global n a c i = semKey .global n' a' c' i' ↔ n = n' := by
  simp [semKey]

/-- C20: different scopes do not block each other: a class-scoped, a self-scoped and a global (or multiprocess-named)
    semaphore never share a key, even under the same name and owner number. -/
theorem C20_different_scopes_never_share_a_key (n n' c c' i i' : Nat) (a : Bool) :
    semKey .cls n true c i ≠ semKey .self n' true c' i' ∧
    semKey .cls n true c i ≠ semKey .global n' a c' i' ∧
    semKey .self n true c i ≠ semKey .global n' a c' i' := by
  simp [semKey]

/-- C20: without a first argument (a plain function) class and self scope fall back to the global key. -/
theorem C20_scopes_without_owner_fall_back_to_global (n c i : Nat) :
    semKey .cls n false c i = semKey .global n false c i ∧ semKey .self n false c i = semKey .global n false c i := by
  simp [semKey]

/-- C20: a slot is released exactly once: after the wrapper's `finally` ran for a call, no second release (indeed no
    second `finally`) of that call is possible until it calls again. -/
theorem C20_no_second_release (s s' : Sem) (c : Nat) (r r' : Bool) (h : sstep s (.finish c r) = some s') :
    sstep s' (.finish c r') = none := by
  obtain ⟨-, rfl⟩ := sstep_some h
  refine if_neg fun hg => ?_
  have hph := (sguard_iff.mp hg).2.1
  -- the first `finally` left the caller `done`
  rw [show (sapply s (.finish c r)).phase c = .done from if_pos rfl] at hph
  exact hph.elim nofun nofun

/-- C20: the wrapper releases in its `finally` exactly when it had acquired: a call that entered without a slot
    (lax, after an acquisition timeout) gives nothing back, a holder always does. -/
theorem C20_release_iff_acquired (s s' : Sem) (c : Nat) (r : Bool) (h : sstep s (.finish c r) = some s') :
    (r = true ↔ s.phase c = .holding) ∧ s'.value = (if s.phase c = .holding then s.value + 1 else s.value) := by
  obtain ⟨hg, rfl⟩ := sstep_some h
  obtain ⟨-, -, rfl⟩ := sguard_iff.mp hg
  exact ⟨beq_iff_eq, ite_cond_congr (propext beq_iff_eq)⟩

/-- C20: a caller cancelled while it waits for a slot, or refused after an acquisition timeout, takes and gives back
    nothing: the semaphore's value is untouched. -/
theorem C20_giving_up_while_waiting_leaves_the_value (s s' : Sem) (c : Nat)
    (h : sstep s (.cancelWaiting c) = some s' ∨ sstep s (.acqTimeout c) = some s') : s'.value = s.value := by
  rcases h with h | h <;> obtain ⟨-, rfl⟩ := sstep_some h
  · rfl
  · rw [sapply_acqTimeout]; rfl

end Bubus.Thm
